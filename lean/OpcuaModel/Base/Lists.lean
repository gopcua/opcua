/-
  List facts that several models need and core Lean does not have under one name.
-/
namespace Opcua.Lists

/-- in a list sorted by a reflexive `R`, the first match is `R`-below every match -/
theorem find?_pairwise {α} {R : α → α → Prop} (hrefl : ∀ a, R a a) {p : α → Bool} {l : List α} {e : α}
    (hs : l.Pairwise R) (h : l.find? p = some e) : ∀ e' ∈ l, p e' = true → R e e' := by
  obtain ⟨_, as, bs, rfl, hn⟩ := List.find?_eq_some_iff_append.mp h
  intro e' he' hp
  rcases List.mem_append.mp he' with ha | hb
  · exact absurd hp (by simpa using hn e' ha)
  · rcases List.mem_cons.mp hb with rfl | hb
    · exact hrefl _
    · exact List.rel_of_pairwise_cons (List.pairwise_append.mp hs).2.1 hb

theorem mem_of_lookup_eq_some {α β} [BEq α] [LawfulBEq α] {l : List (α × β)} {k : α} {v : β}
    (h : l.lookup k = some v) : (k, v) ∈ l := by
  obtain ⟨l₁, l₂, rfl, _⟩ := List.lookup_eq_some_iff.mp h
  simp

/-- a key function without duplicates on `l` is injective on `l` -/
theorem eq_of_nodup_map {α β} {f : α → β} {l : List α} (hnd : (l.map f).Nodup) {a b : α}
    (ha : a ∈ l) (hb : b ∈ l) (h : f a = f b) : a = b := by
  obtain ⟨i, hi⟩ := List.mem_iff_getElem?.mp ha
  obtain ⟨j, hj⟩ := List.mem_iff_getElem?.mp hb
  have hlt : i < (l.map f).length := by simpa using (List.getElem?_eq_some_iff.mp hi).1
  have : i = j := (List.getElem?_inj hlt hnd).mp (by simp [hi, hj, h])
  exact Option.some.inj (hi.symm.trans (this ▸ hj))

/-- erasing position `i` removes no element other than the one that stood there -/
theorem mem_eraseIdx_of_ne {α} {l : List α} {i : Nat} {n m : α} (hi : l[i]? = some n) (hne : m ≠ n)
    (hm : m ∈ l) : m ∈ l.eraseIdx i := by
  obtain ⟨j, hj⟩ := List.mem_iff_getElem?.mp hm
  exact List.mem_eraseIdx_iff_getElem?.mpr ⟨j, fun e => hne (Option.some.inj ((e ▸ hj).symm.trans hi)), hj⟩

theorem sum_map_le {α} (f : α → Nat) (K : Nat) (l : List α) (h : ∀ x ∈ l, f x ≤ K) :
    (l.map f).sum ≤ K * l.length := by
  induction l with
  | nil => simp
  | cons a t ih =>
    have h1 := h a (List.mem_cons_self ..)
    have h2 := ih (fun x hx => h x (List.mem_cons_of_mem _ hx))
    simp only [List.map_cons, List.sum_cons, List.length_cons, Nat.mul_add, Nat.mul_one]
    omega

theorem of_all_zipWith {α β : Type} {f : α → β → Bool} {l : List α} {l' : List β}
    (h : (List.zipWith f l l').all id = true) {a : α} {b : β} (hm : (a, b) ∈ l.zip l') : f a b = true := by
  rw [← List.map_uncurry_zip_eq_zipWith, List.all_map, List.all_eq_true] at h
  exact h _ hm

/-! Go maps with numeric keys are modelled as association lists (`Recv.Bufs`, `Tokens.Table`):
    reading is `find?` on the key, `delete` is `filter` on the key. -/

theorem find_filter_same {β : Type} (l : List (Nat × β)) (r : Nat) :
    (l.filter (fun e => !(e.1 == r))).find? (fun e => e.1 == r) = none := by
  simp [List.find?_filter]

theorem find_filter_other {β : Type} (l : List (Nat × β)) {r r' : Nat} (h : r' ≠ r) :
    (l.filter (fun e => !(e.1 == r))).find? (fun e => e.1 == r') = l.find? (fun e => e.1 == r') := by
  rw [List.find?_filter]
  congr 1
  funext e
  by_cases he : e.1 = r' <;> simp [he, h]

end Opcua.Lists
