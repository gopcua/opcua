import OpcuaModel.Gen.SeqNum
/-
  C11 / C16(b) — numbering and writing of chunks by concurrent senders and the
  token renewal of a client secure channel, as a labelled transition system.

  Threads: any number of senders (spawned at any time; request senders go
  through `SendRequestWithTimeout`, response senders through
  `sendResponseWithContext`/`SendMsgWithContext`) and the renewer
  (`renew` → `open` → OPN request → `handleOpenSecureChannelResponse`).
  Shared: `activeInstance`, per instance the counter `sequenceNumber`, the
  embedded mutex and the token id, the gate `reqLocker`, the wait group
  `pendingReq` (as the list of threads that did `Add` and not yet `Done`), the
  wire.  One label per critical section / gate operation / write; which lock
  protects what is in `Gen.SendFacts` (theorem `C11_facts`).

    spawn                a new thread
    gate t               `s.reqLocker.waitIfLock()` returns          (needs the gate open)
    getActive t          `getActiveChannelInstance()` in SendRequestWithTimeout
    pendAdd t            `s.pendingReq.Add(1)`
    respGetActive t      `getActiveChannelInstance()` of a response sender
    lockInst t           `instance.Lock()`                           (needs the mutex free)
    newMsg t cnt         `newRequestMessage`/`newMessage`: draws the first number; the message has cnt chunks
    write t sq           one loop iteration: draws the next number if idx > 0, writes the chunk; sq = number seen on the wire
    abort t              the loop returns early (`ctx.Done()`, encode / sign / write error)
    unlockInst t         deferred `instance.Unlock()` (after the last chunk, after an abort, or straight
                         after `lockInst` when the context is already done: no number is drawn then)
    pendDone t           `s.pendingReq.Done()`
    rLock                `s.reqLocker.lock()` of the renewal scheduled for the active token (one per installed token)
    rWaitBegin/rWaitDone `s.pendingReq.Wait()`  (it returns once the wait group was empty after the call)
    rLockOld             `instance.Lock()` of the token being renewed
    rCopy                `open`: new instance, `sequenceNumber` copied from the old one
    rSendOPN sq          the OPN request is numbered from the new instance and written
    rInstall tok         `handleOpenSecureChannelResponse`: the new instance becomes active
    rFail                `open` returns an error (timeout, bad response): nothing is installed
    rUnlockOld, rUnlock  deferred `instance.Unlock()`, `s.reqLocker.unlock()`
-/
namespace Opcua.SendSeq

def upd {α : Type} (f : Nat → α) (k : Nat) (v : α) : Nat → α := fun j => if j = k then v else f j

@[simp, grind =] theorem upd_apply {α : Type} (f : Nat → α) (k : Nat) (v : α) (j : Nat) :
    upd f k v j = if j = k then v else f j := rfl

/-- `channelInstance.nextSequenceNumber` (machine translated) -/
def next (n : Int) : Int := (Gen.nextSequenceNumber n).2

/-- who owns a mutex or is counted by the wait group: sender `t`, or the renewer -/
inductive Who where
  | s (t : Nat)
  | r
  deriving DecidableEq, Repr

structure Chunk where
  inst : Nat
  tok : Nat
  seq : Int
  msg : Nat
  opn : Bool
  idx : Nat
  cnt : Nat
  deriving DecidableEq, Repr

/-- where a sender stands.  Request senders: `start` (not past the gate yet), `gated` (past
    `reqLocker.waitIfLock()`), `hasActive i` (has read the active instance, not yet counted), `added i`
    (after `pendingReq.Add`, before `instance.Lock()`), `locked i true` (holds the mutex of `i`, no number
    drawn), `writing`, `unlocked i` (after `instance.Unlock()`, before `pendingReq.Done()`), `done`.
    Response senders (`req = false`): `start`, `respActive i` (has read the active instance), `locked i false`,
    `writing`, `done`; they pass no gate and are never counted. -/
inductive PC where
  | start
  | gated
  | hasActive (i : Nat)
  | added (i : Nat)
  | respActive (i : Nat)
  | locked (i : Nat) (req : Bool)
  /-- numbered; `idx` chunks are written, `idx = cnt`: finished (or aborted) -/
  | writing (i : Nat) (req : Bool) (idx cnt : Nat)
  | unlocked (i : Nat)
  | done
  deriving DecidableEq, Repr

/-- where the renewer stands: `idle` (no renewal), `gateLocked` (after `reqLocker.lock()`), `waiting` (inside
    `pendingReq.Wait()`), `waited` (`Wait` has returned), `wantOld` (about to `instance.Lock()` the token it
    renews), `holdOld` (holds that mutex), `copied j` (`open` has created instance `j`), `sent j` (OPN request
    written), `installed j` / `failed j` (`j` became active / `open` returned an error), `releasedOld` (old
    instance unlocked, gate still locked) -/
inductive RPC where
  | idle | gateLocked | waiting | waited | wantOld | holdOld
  | copied (j : Nat) | sent (j : Nat) | installed (j : Nat) | failed (j : Nat) | releasedOld
  deriving DecidableEq, Repr

structure St where
  /-- threads spawned so far: `0 … n-1` -/
  n : Nat
  pc : Nat → PC
  rpc : RPC
  /-- the instance the running renewal renews (what `renew` locks and later unlocks) -/
  old : Nat
  active : Nat
  /-- instances created so far: `0 … nInst-1` -/
  nInst : Nat
  seq : Nat → Int
  tok : Nat → Nat
  holder : Nat → Option Who
  reqLocked : Bool
  pend : List Who
  /-- newest chunk first -/
  wire : List Chunk
  /-- counter of the first token before anything was sent -/
  base : Int
  /-- ghost: the thread that is in the middle of a multi-chunk message -/
  mid : Option Nat
  /-- ghost: instances (tokens) for which a renewal was started, newest first -/
  renewed : List Nat
  /-- a renewal is still scheduled for this instance (`go s.scheduleRenewal(instance)` ran and
      its renewal has not started yet) -/
  sched : Nat → Bool

def init (b : Int) (tk : Nat) : St :=
  { n := 0, pc := fun _ => .start, rpc := .idle, old := 0, active := 0, nInst := 1,
    seq := fun _ => b, tok := fun _ => tk, holder := fun _ => none, reqLocked := false, pend := [],
    wire := [], base := b, mid := none, renewed := [], sched := fun i => decide (i = 0) }

inductive Label where
  | spawn
  | gate (t : Nat) | getActive (t : Nat) | pendAdd (t : Nat) | respGetActive (t : Nat)
  | lockInst (t : Nat) | newMsg (t : Nat) (cnt : Nat) | write (t : Nat) (sq : Int) | abort (t : Nat)
  | unlockInst (t : Nat) | pendDone (t : Nat)
  | rLock | rWaitBegin | rWaitDone | rLockOld | rCopy | rSendOPN (sq : Int)
  | rInstall (tok : Nat) | rFail | rUnlockOld | rUnlock
  deriving DecidableEq, Repr

/-- `pendingReq.Wait()` has returned (logically) as soon as the wait group is
    empty while the renewer waits -/
def settle (s : St) : St :=
  if s.rpc = .waiting ∧ s.pend = [] then { s with rpc := .waited } else s

def step? (s : St) : Label → Option St
  | .spawn => some { s with n := s.n + 1 }
  | .gate t =>
    if t < s.n then
      match s.pc t with
      | .start => if s.reqLocked then none else some { s with pc := upd s.pc t .gated }
      | _ => none
    else none
  | .getActive t =>
    match s.pc t with
    | .gated => some { s with pc := upd s.pc t (.hasActive s.active) }
    | _ => none
  | .pendAdd t =>
    match s.pc t with
    | .hasActive i => some { s with pc := upd s.pc t (.added i), pend := .s t :: s.pend }
    | _ => none
  | .respGetActive t =>
    if t < s.n then
      match s.pc t with
      | .start => some { s with pc := upd s.pc t (.respActive s.active) }
      | _ => none
    else none
  | .lockInst t =>
    match s.pc t with
    | .added i =>
      if s.holder i = none then some { s with pc := upd s.pc t (.locked i true), holder := upd s.holder i (some (.s t)) } else none
    | .respActive i =>
      if s.holder i = none then some { s with pc := upd s.pc t (.locked i false), holder := upd s.holder i (some (.s t)) } else none
    | _ => none
  | .newMsg t cnt =>
    match s.pc t with
    | .locked i req =>
      if cnt = 0 then none
      else some { s with seq := upd s.seq i (next (s.seq i)), pc := upd s.pc t (.writing i req 0 cnt) }
    | _ => none
  | .write t sq =>
    match s.pc t with
    | .writing i req idx cnt =>
      if idx < cnt then
        let v := if idx = 0 then s.seq i else next (s.seq i)
        if v = sq then
          some { s with seq := upd s.seq i v,
                        wire := { inst := i, tok := s.tok i, seq := v, msg := t, opn := false, idx := idx, cnt := cnt } :: s.wire,
                        pc := upd s.pc t (.writing i req (idx + 1) cnt),
                        mid := if idx + 1 < cnt then some t else none }
        else none
      else none
    | _ => none
  | .abort t =>
    match s.pc t with
    | .writing i req idx cnt =>
      if idx < cnt then some { s with pc := upd s.pc t (.writing i req cnt cnt), mid := if s.mid = some t then none else s.mid } else none
    | _ => none
  | .unlockInst t =>
    match s.pc t with
    | .locked i req =>
      -- the context was already done: the function returns before a number is drawn
      some { s with holder := upd s.holder i none, pc := upd s.pc t (if req then .unlocked i else .done) }
    | .writing i req idx cnt =>
      if idx = cnt then
        some { s with holder := upd s.holder i none, pc := upd s.pc t (if req then .unlocked i else .done) }
      else none
    | _ => none
  | .pendDone t =>
    match s.pc t with
    | .unlocked _ => some (settle { s with pend := s.pend.erase (.s t), pc := upd s.pc t .done })
    | _ => none
  | .rLock =>
    match s.rpc with
    | .idle =>
      if s.sched s.active then
        some { s with rpc := .gateLocked, reqLocked := true, old := s.active, renewed := s.active :: s.renewed,
                      sched := upd s.sched s.active false }
      else none
    | _ => none
  | .rWaitBegin =>
    match s.rpc with
    | .gateLocked => some (settle { s with rpc := .waiting })
    | _ => none
  | .rWaitDone =>
    match s.rpc with
    | .waited => some { s with rpc := .wantOld }
    | _ => none
  | .rLockOld =>
    match s.rpc with
    | .wantOld => if s.holder s.old = none then some { s with rpc := .holdOld, holder := upd s.holder s.old (some .r) } else none
    | _ => none
  | .rCopy =>
    match s.rpc with
    | .holdOld =>
      some { s with rpc := .copied s.nInst, nInst := s.nInst + 1, seq := upd s.seq s.nInst (s.seq s.old),
                    tok := upd s.tok s.nInst 0, holder := upd s.holder s.nInst none }
    | _ => none
  | .rSendOPN sq =>
    match s.rpc with
    | .copied j =>
      if next (s.seq j) = sq then
        some { s with rpc := .sent j, seq := upd s.seq j (next (s.seq j)),
                      wire := { inst := j, tok := 0, seq := next (s.seq j), msg := 0, opn := true, idx := 0, cnt := 1 } :: s.wire }
      else none
    | _ => none
  | .rInstall tk =>
    match s.rpc with
    | .sent j => some { s with rpc := .installed j, active := j, tok := upd s.tok j tk, sched := upd s.sched j true }
    | _ => none
  | .rFail =>
    match s.rpc with
    | .sent j => some { s with rpc := .failed j }
    | _ => none
  | .rUnlockOld =>
    match s.rpc with
    | .installed _ => some { s with rpc := .releasedOld, holder := upd s.holder s.old none }
    | .failed _ => some { s with rpc := .releasedOld, holder := upd s.holder s.old none }
    | _ => none
  | .rUnlock =>
    match s.rpc with
    | .releasedOld => some { s with rpc := .idle, reqLocked := false }
    | _ => none

def run? (s : St) : List Label → Option St
  | [] => some s
  | l :: ls => match step? s l with
    | some s' => run? s' ls
    | none => none

/-- every interleaving -/
inductive Reachable : St → Prop where
  | init (b : Int) (tk : Nat) : Reachable (init b tk)
  | step {s s' : St} (l : Label) : Reachable s → step? s l = some s' → Reachable s'

theorem reachable_run {s s' : St} (tr : List Label) (h : Reachable s) (hr : run? s tr = some s') : Reachable s' := by
  induction tr generalizing s with
  | nil => exact Option.some.inj hr ▸ h
  | cons l ls ih =>
    cases h1 : step? s l with
    | none => simp [run?, h1] at hr
    | some s1 => exact ih (.step l h h1) (by simpa [run?, h1] using hr)

/-! ### the property on the wire -/

/-- the newer chunk continues the message of the older one, or starts a new
    message right after a final chunk -/
def Adj (newer older : Chunk) : Prop :=
  if newer.idx = 0 then older.idx + 1 = older.cnt
  else older.msg = newer.msg ∧ older.opn = newer.opn ∧ older.idx + 1 = newer.idx ∧ older.cnt = newer.cnt

instance (a b : Chunk) : Decidable (Adj a b) := by unfold Adj; exact inferInstance

/-- sequence numbers go up by `nextSequenceNumber` from chunk to chunk, starting
    after `base`, and the chunks of a message are adjacent (wire newest first) -/
def Linked (base : Int) : List Chunk → Prop
  | [] => True
  | [c] => c.seq = next base ∧ c.idx = 0
  | c2 :: c1 :: rest => c2.seq = next c1.seq ∧ Adj c2 c1 ∧ Linked base (c1 :: rest)

instance (b : Int) : (w : List Chunk) → Decidable (Linked b w)
  | [] => isTrue trivial
  | [c] => by unfold Linked; exact inferInstance
  | c2 :: c1 :: rest => by
    unfold Linked
    have := instDecidableLinked b (c1 :: rest)
    exact inferInstance

/-- number of the newest chunk (or the base) -/
def lastSeq (base : Int) : List Chunk → Int
  | [] => base
  | c :: _ => c.seq

/-- the newest chunk ends its message (or nothing was written): a new message may start -/
def headFinal : List Chunk → Prop
  | [] => True
  | c :: _ => c.idx + 1 = c.cnt

/-- the newest chunk is chunk `k` of the `cnt`-chunk MSG message of thread `t` -/
def headIs (w : List Chunk) (t k cnt : Nat) : Prop :=
  match w with
  | [] => False
  | c :: _ => c.msg = t ∧ c.opn = false ∧ c.idx = k ∧ c.cnt = cnt

theorem linked_cons {base : Int} {w : List Chunk} {c : Chunk} (hl : Linked base w)
    (hs : c.seq = next (lastSeq base w))
    (h0 : c.idx = 0 → headFinal w)
    (h1 : c.idx ≠ 0 → ∃ k, c.idx = k + 1 ∧ headIs w c.msg k c.cnt ∧ c.opn = false) : Linked base (c :: w) := by
  cases w with
  | nil => exact ⟨hs, Classical.byContradiction fun hc => (h1 hc).elim fun _ h => h.2.1⟩
  | cons c1 rest =>
    refine ⟨hs, ?_, hl⟩
    unfold Adj
    split
    · next hc => exact h0 hc
    · next hc =>
      obtain ⟨k, hk, ⟨hm, ho, hi, hn⟩, hop⟩ := h1 hc
      exact ⟨hm, ho.trans hop.symm, hi ▸ hk.symm, hn⟩

end Opcua.SendSeq
