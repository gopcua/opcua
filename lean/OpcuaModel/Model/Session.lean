import OpcuaModel.Base.Algo
/-
  C22 — model of `Client.Connect` → `Dial` / `CreateSession` / `ActivateSession`
  / `UpdateNamespaces` / `Close` (client.go) and of
  `SecureChannel.VerifySessionSignature` (uasc/secure_channel_crypto.go) as a
  function of the server's behaviour.

  Every Go statement that decides the outcome is one match arm; the comments
  quote the source.  The booleans of `CodeFacts` are read from the source by
  the generator topic `sessionfacts` (`Gen/SessionFacts.lean`), so the model
  follows the code when the defect is repaired.
-/
namespace Opcua.Session

/-- what the CreateSessionResponse carries as `ServerCertificate` -/
inductive Cert where
  | own          -- the certificate the channel was opened with (RSA, size accepted by the policy)
  | otherRsa     -- a different RSA certificate of accepted size
  | wrongSize    -- an RSA certificate whose key size the policy refuses (`uapolicy.Asymmetric` errors)
  | unparsable   -- bytes that are not a DER certificate
  | empty        -- no bytes
  | nonRsa       -- a well-formed certificate with an ECDSA key
  | chainOwnOther  -- a DER chain: the channel's certificate followed by a foreign (non-CA) RSA certificate
  | chainOtherOwn  -- a DER chain: a foreign (non-CA) RSA certificate followed by the channel's certificate
  deriving Repr, DecidableEq

/-- the private key the server signed with -/
inductive SigKey where
  | own | other
  deriving Repr, DecidableEq

/-- the data the server signed -/
inductive SigData where
  | right        -- client certificate ‖ client nonce
  | wrongNonce   -- client certificate ‖ some other nonce
  | wrongCert    -- server certificate ‖ client nonce
  deriving Repr, DecidableEq

/-- what happened to the signature bytes afterwards -/
inductive Mangle where
  | intact | bitFlipped | truncated | empty
  deriving Repr, DecidableEq

/-- shape of an answer as `sendRequestWithTimeout` + the handler see it -/
inductive Resp where
  | ok           -- expected response type, ServiceResult Good
  | badStatus    -- expected response type, ServiceResult Bad…: handler runs, its result is dropped, the status is returned
  | fault        -- ServiceFault with a Bad status
  | wrongType    -- another response type with ServiceResult Good: `safeAssign` fails
  deriving Repr, DecidableEq

structure Server where
  create   : Resp
  cert     : Cert
  sigKey   : SigKey
  sigData  : SigData
  mangle   : Mangle
  activate : Resp
  nsRead   : Resp      -- the Read of Server_NamespaceArray issued by `UpdateNamespaces`
  nsIsStrings : Bool   -- the value read is a `[]string`
  deriving Repr, DecidableEq

/-- facts about the source the model depends on (generated) -/
structure CodeFacts where
  /-- `CreateSession`: the branch `if err != nil` after `VerifySessionSignature` returns the error -/
  verifyErrReturned : Bool
  /-- `VerifySessionSignature`: the public key type assertion is the comma-ok form -/
  rsaAssertChecked : Bool
  /-- `ActivateSession` or `Connect` returns an error for a nil session before using it -/
  nilSessionChecked : Bool
  deriving Repr, DecidableEq

inductive ConnState where
  | closed | connected | connecting | disconnected | reconnecting
  deriving Repr, DecidableEq

inductive Outcome where
  | ok | err | panic
  deriving Repr, DecidableEq

/-- the public key the certificate of the response carries, if it is an
    acceptable RSA certificate -/
def certKey : Cert → Option SigKey
  | .own => some .own
  | .otherRsa => some .other
  -- `uapolicy.ParseCertificate` returns the FIRST certificate of a chain (`certs[0]`): the
  -- certificate that identifies the sender; whatever follows it proves nothing
  | .chainOwnOther => some .own
  | .chainOtherOwn => some .other
  | _ => none

/-- the cryptographic fact: the signature verifies with the certificate of the
    response iff it was made with that certificate's private key over
    (client certificate ‖ client nonce) and reached the client unmodified.
    (Soundness of RSA-PKCS1v15 / PSS is the usual hypothesis; the C22 run
    evaluates the real primitive on every sampled point.) -/
def sigVerifies (s : Server) : Bool :=
  certKey s.cert == some s.sigKey && s.sigData == .right && s.mangle == .intact

/-- the property's notion "the server proved its identity": the signature
    verifies with the server certificate -/
def sigValid (s : Server) : Prop := sigVerifies s = true

instance (s : Server) : Decidable (sigValid s) := by unfold sigValid; infer_instance

inductive VerifyResult where
  | ok | err | panic
  deriving Repr, DecidableEq

/-- `SecureChannel.VerifySessionSignature(cert, nonce, signature)` -/
def verifySessionSignature (f : CodeFacts) (m : Mode) (s : Server) : VerifyResult :=
  -- if s.cfg.SecurityMode == ua.MessageSecurityModeNone { return nil }
  if m = .none then .ok else
  match s.cert with
  -- remoteX509Cert, err := uapolicy.ParseCertificate(cert); if err != nil { return err }
  | .unparsable | .empty => .err
  -- remoteKey := remoteX509Cert.PublicKey.(*rsa.PublicKey)
  | .nonRsa => if f.rsaAssertChecked then .err else .panic
  -- enc, err := uapolicy.Asymmetric(...); if err != nil { return err }
  | .wrongSize => .err
  -- err = enc.VerifySignature(append(s.cfg.Certificate, nonce...), signature)
  | .own | .otherRsa | .chainOwnOther | .chainOtherOwn => if sigVerifies s then .ok else .err

/-- result of `CreateSession`: the session pointer (nil or not) and the error -/
inductive Created where
  | session      -- (s, nil)
  | nilNoErr     -- (nil, nil)
  | error        -- (_, err)
  | panic
  deriving Repr, DecidableEq

/-- `Client.CreateSession` after a successful `Dial`; `v` is what
    `VerifySessionSignature` answers when the handler reaches it -/
def createSession (f : CodeFacts) (create : Resp) (v : VerifyResult) : Created :=
  match create with
  -- msg.Err != nil, msg.Response() is a *ServiceFault: h runs, safeAssign fails, result dropped; `return msg.Err`
  | .fault => .error
  -- h(msg.Response()): safeAssign(v, &res) fails → return err
  | .wrongType => .error
  -- msg.Err != nil but the response has the expected type: `_ = h(msg.Response())` runs the whole handler
  | .badStatus =>
    match v with
    | .panic => .panic
    | _ => .error
  | .ok =>
    match v with
    | .panic => .panic
    -- log.Printf("error verifying session signature: %s", err); return nil     ← s stays nil
    | .err => if f.verifyErrReturned then .error else .nilNoErr
    | .ok => .session

/-- result of `ActivateSession(ctx, s)` -/
inductive Activated where
  | ok | error | panic
  deriving Repr, DecidableEq

/-- `Client.ActivateSession`; `sessionNil` = the argument is a nil `*Session`.
    Second component: an ActivateSessionRequest was sent. -/
def activateSession (f : CodeFacts) (sessionNil : Bool) (activate : Resp) : Activated × Bool :=
  -- sig, sigAlg, err := sc.NewSessionSignature(s.serverCertificate, s.serverNonce)   ← nil dereference
  if sessionNil then (if f.nilSessionChecked then (.error, false) else (.panic, false)) else
  -- (the certificate was accepted by VerifySessionSignature, NewSessionSignature takes the same steps)
  match activate with
  | .ok => (.ok, true)
  | _ => (.error, true)

/-- `Client.UpdateNamespaces` → `NamespaceArray` → `Node.Value` → `Read` -/
def updateNamespaces (s : Server) : Bool :=
  match s.nsRead with
  | .ok => s.nsIsStrings   -- v.Value().([]string) is comma-ok: an error otherwise
  | _ => false

structure Result where
  outcome : Outcome
  /-- states handed to the `StateChangedFunc` callback, in order -/
  states : List ConnState
  /-- an ActivateSessionRequest reached the server -/
  activateSent : Bool
  deriving Repr, DecidableEq

def Result.final (r : Result) : ConnState := r.states.getLastD .closed

/-- `Client.Connect` when `Dial` succeeds, as a function of what the four
    exchanges answer -/
def connectCore (f : CodeFacts) (create : Resp) (v : VerifyResult) (activate : Resp) (ns : Bool) : Result :=
  -- c.setState(ctx, Connecting); c.Dial(ctx)
  match createSession f create v with
  | .panic => ⟨.panic, [.connecting], false⟩
  -- c.Close(ctx): setState(Closed); return err
  | .error => ⟨.err, [.connecting, .closed], false⟩
  | c =>
    match activateSession f (c == .nilNoErr) activate with
    | (.panic, sent) => ⟨.panic, [.connecting], sent⟩
    | (.error, sent) => ⟨.err, [.connecting, .closed], sent⟩
    | (.ok, sent) =>
      -- c.setState(ctx, Connected); go c.monitor(mctx); c.UpdateNamespaces(ctx)
      if ns then ⟨.ok, [.connecting, .connected], sent⟩
      -- c.Close(ctx) (the monitor goroutine then reports Closed once more)
      else ⟨.err, [.connecting, .connected, .closed], sent⟩

/-- `Client.Connect` against server behaviour `s` in mode `m` -/
def connect (f : CodeFacts) (m : Mode) (s : Server) : Result :=
  connectCore f s.create (verifySessionSignature f m s) s.activate (updateNamespaces s)

/-- the code before the two repairs (`Gen.sessionFacts` is what the working tree has) -/
def asIs : CodeFacts := ⟨false, false, false⟩

/-- the nil-session defect is repaired one way or the other -/
def CodeFacts.nilRepaired (f : CodeFacts) : Bool := f.verifyErrReturned || f.nilSessionChecked

/-- the verdict in closed form: among the refused answers only the non-RSA certificate stands out -/
theorem verify_eq (f : CodeFacts) (m : Mode) (s : Server) :
    verifySessionSignature f m s =
      if m = .none ∨ sigValid s then .ok
      else if s.cert = .nonRsa ∧ f.rsaAssertChecked = false then .panic else .err := by
  unfold verifySessionSignature sigValid
  by_cases hm : m = .none
  · simp [hm]
  · cases hc : s.cert <;> simp [hm, sigVerifies, certKey, hc]
    cases f.rsaAssertChecked <;> rfl

/-- the two ways the sequence of `Connect` panics: the unchecked `.(*rsa.PublicKey)` inside the handler,
    which runs for a CreateSessionResponse of the expected type whatever its status, and the nil session
    that a Good response with a refused signature leaves behind -/
def crashes (f : CodeFacts) (create : Resp) (v : VerifyResult) : Bool :=
  match v with
  | .panic => create == .ok || create == .badStatus
  | .err => create == .ok && !f.nilRepaired
  | .ok => false

/-- without a verified signature there is no session: `Connect` ends in one of two ways -/
theorem connectCore_of_ne_ok {f : CodeFacts} {cr : Resp} {v : VerifyResult} {ac : Resp} {ns : Bool}
    (hv : v ≠ .ok) :
    connectCore f cr v ac ns =
      if crashes f cr v then ⟨.panic, [.connecting], false⟩ else ⟨.err, [.connecting, .closed], false⟩ := by
  cases v with
  | ok => exact absurd rfl hv
  | panic => cases cr <;> rfl
  | err =>
    cases cr <;> try rfl
    -- a Good response: `(nil, nil)` unless the error is returned, then a panic unless nil is checked
    rcases f with ⟨a, b, c⟩
    cases a <;> cases c <;> rfl

theorem connectCore_panic_iff (f : CodeFacts) (cr : Resp) (v : VerifyResult) (ac : Resp) (ns : Bool) :
    (connectCore f cr v ac ns).outcome = .panic ↔ crashes f cr v = true := by
  by_cases hv : v = .ok
  · subst hv
    refine ⟨?_, nofun⟩
    cases cr with
    | ok => cases ac <;> cases ns <;> exact nofun
    | _ => exact nofun
  · rw [connectCore_of_ne_ok hv]; cases crashes f cr v <;> simp

theorem connect_panic_iff (f : CodeFacts) (m : Mode) (s : Server) :
    (connect f m s).outcome = .panic ↔ crashes f s.create (verifySessionSignature f m s) = true :=
  connectCore_panic_iff ..

theorem connect_of_invalid {f : CodeFacts} {m : Mode} {s : Server} (hm : m ≠ .none) (h : ¬ sigValid s) :
    connect f m s =
      if crashes f s.create (if s.cert = .nonRsa ∧ f.rsaAssertChecked = false then .panic else .err)
      then ⟨.panic, [.connecting], false⟩ else ⟨.err, [.connecting, .closed], false⟩ := by
  rw [connect, verify_eq, if_neg (not_or.2 ⟨hm, h⟩)]
  exact connectCore_of_ne_ok (by split <;> nofun)

end Opcua.Session
