import OpcuaModel.Model.Chunk
import OpcuaModel.Model.ChunkMsg
/-
  Reassembly over interleavings for the byte-level stack model of C07
  (`Model/Chunk.lean`: `readChunk`, `receiveStep`, `sendSession`).

  `Chunk.receiveStep` touches only the table entry of the request id the chunk
  carries (`receiveStep_local`); hence chunk streams whose request ids are
  disjoint do not interfere (`noninterference`): the results `Receive` produces
  for the chunks of one stream inside ANY interleaving are the results it
  produces for that stream alone.  Together with `Chunk.session_ok`
  this gives `Props.C12.C12_stack_interleaved`.

  The locality argument is made on `Chunk.Table` (a function, so the table
  lemmas are one-liners) for the stack composition; it does not use `Recv`'s
  own chunk/table representation.  See notes/C12.md for the list of
  representation differences.
-/
namespace Opcua.RecvBridge
open Opcua Opcua.Chunk

/-- the request id a wire chunk carries, as `readChunk` sees it -/
def reqOf (insts : Nat → List Side) (w : Bytes) : Option Nat :=
  match readChunk insts w with
  | .ok (some c) => some c.requestID
  | _ => none

/-- the loop body of `Receive` on the buffer of the chunk's request id -/
def core (lim : Limits) (l : List RChunk) (c : RChunk) : List RChunk × Option (Res MsgOut) :=
  if c.chunkType = chunkA then ([], some .err)
  else if c.chunkType = chunkC then
    if lim.maxChunkCount ≠ 0 ∧ (l ++ [c]).length % 4294967296 > lim.maxChunkCount then ([], some .err)
    else (l ++ [c], none)
  else
    if lim.maxMessageSize ≠ 0 ∧ (mergeChunks (l ++ [c])).length % 4294967296 > lim.maxMessageSize then ([], some .err)
    else ([], some (.ok { requestID := c.requestID, channelID := c.channelID, body := mergeChunks (l ++ [c]) }))

theorem receiveStep_eq_core (insts : Nat → List Side) (lim : Limits) (t : Table) (w : Bytes) (c : RChunk)
    (h : readChunk insts w = .ok (some c)) :
    receiveStep insts lim t w = (t.set c.requestID (core lim (t c.requestID) c).1, (core lim (t c.requestID) c).2) := by
  unfold receiveStep core
  rw [h]
  by_cases hA : c.chunkType = chunkA
  · simp only [if_pos hA]
  · by_cases hC : c.chunkType = chunkC
    · simp only [if_neg hA, if_pos hC]; split <;> rfl
    · simp only [if_neg hA, if_neg hC]; split <;> rfl

/-- a step ignores the table (`readChunk` yields no chunk), or it is `core` on the entry of the chunk's
    request id -/
theorem receiveStep_local (insts : Nat → List Side) (lim : Limits) (w : Bytes) :
    (reqOf insts w = none ∧ ∃ o, ∀ t, receiveStep insts lim t w = (t, o)) ∨
    ∃ c, reqOf insts w = some c.requestID ∧ ∀ t, receiveStep insts lim t w =
      (t.set c.requestID (core lim (t c.requestID) c).1, (core lim (t c.requestID) c).2) := by
  unfold reqOf
  cases hr : readChunk insts w with
  | ok o =>
    cases o with
    | some c => exact .inr ⟨c, rfl, fun t => receiveStep_eq_core insts lim t w c hr⟩
    | none => exact .inl ⟨rfl, _, fun _ => by rw [receiveStep, hr]⟩
  | _ => exact .inl ⟨rfl, _, fun _ => by rw [receiveStep, hr]⟩

def Agree (P : Nat → Prop) (t t' : Table) : Prop := ∀ r, P r → t r = t' r

/-- a chunk of "our" stream: same result on tables that agree on our request ids, and they still agree -/
theorem step_own {insts : Nat → List Side} (lim : Limits) {P : Nat → Prop} {t t' : Table} {w : Bytes}
    (hw : ∀ r, reqOf insts w = some r → P r) (ha : Agree P t t') :
    (receiveStep insts lim t w).2 = (receiveStep insts lim t' w).2 ∧
    Agree P (receiveStep insts lim t w).1 (receiveStep insts lim t' w).1 := by
  rcases receiveStep_local insts lim w with ⟨_, o, ho⟩ | ⟨c, hq, hc⟩
  · rw [ho t, ho t']
    exact ⟨rfl, ha⟩
  · rw [hc t, hc t', ha _ (hw _ hq)]
    refine ⟨rfl, fun r hPr => ?_⟩
    simp only [Table.set]
    split
    · rfl
    · exact ha r hPr

/-- a chunk of another stream leaves our request ids alone -/
theorem step_foreign {insts : Nat → List Side} (lim : Limits) {P : Nat → Prop} {t t' : Table} {w : Bytes}
    (hw : ∀ r, reqOf insts w = some r → ¬ P r) (ha : Agree P t t') :
    Agree P (receiveStep insts lim t w).1 t' := by
  rcases receiveStep_local insts lim w with ⟨_, o, ho⟩ | ⟨c, hq, hc⟩
  · rw [ho t]
    exact ha
  · rw [hc t]
    intro r hPr
    simp only [Table.set]
    split
    · rename_i e; rw [e] at hPr; exact absurd hPr (hw _ hq)
    · exact ha r hPr

/-- what the loop of `Receive` produces for every chunk of a stream (`none` = `continue`) -/
def outs (insts : Nat → List Side) (lim : Limits) : Table → List Bytes → List (Option (Res MsgOut))
  | _, [] => []
  | t, w :: ws => (receiveStep insts lim t w).2 :: outs insts lim (receiveStep insts lim t w).1 ws

/-- the same for a stream whose chunks are tagged with the stream they belong to -/
def outsTagged (insts : Nat → List Side) (lim : Limits) : Table → List (Nat × Bytes) → List (Nat × Option (Res MsgOut))
  | _, [] => []
  | t, x :: xs => (x.1, (receiveStep insts lim t x.2).2) :: outsTagged insts lim (receiveStep insts lim t x.2).1 xs

/-- the chunks of stream `k` of a tagged interleaving, in order -/
def stream (k : Nat) (s : List (Nat × Bytes)) : List Bytes := (s.filter (fun x => x.1 == k)).map (·.2)

/-- NON-INTERFERENCE.  `P` = the request ids of stream `k`: its chunks carry ids in
    `P`, the chunks of all other streams carry ids outside `P`.  Then inside any
    interleaving the results for the chunks of stream `k` are exactly the results
    of running stream `k` alone, from any table that agrees on `P`. -/
theorem noninterference (insts : Nat → List Side) (lim : Limits) (k : Nat) (P : Nat → Prop)
    (s : List (Nat × Bytes)) (t t' : Table)
    (hown : ∀ x ∈ s, x.1 = k → ∀ r, reqOf insts x.2 = some r → P r)
    (hfor : ∀ x ∈ s, x.1 ≠ k → ∀ r, reqOf insts x.2 = some r → ¬ P r)
    (ha : Agree P t t') :
    ((outsTagged insts lim t s).filter (fun o => o.1 == k)).map (·.2) = outs insts lim t' (stream k s) := by
  induction s generalizing t t' with
  | nil => rfl
  | cons x xs ih =>
    have hown' := fun y hy => hown y (List.mem_cons_of_mem x hy)
    have hfor' := fun y hy => hfor y (List.mem_cons_of_mem x hy)
    by_cases hk : x.1 = k
    · obtain ⟨h1, h2⟩ := step_own lim (hown x (List.mem_cons_self ..) hk) ha
      have hb : (x.1 == k) = true := by simp [hk]
      simp only [outsTagged, stream, List.filter_cons, hb, if_true, List.map_cons, outs]
      rw [h1]
      congr 1
      exact ih _ _ hown' hfor' h2
    · have h2 := step_foreign lim (hfor x (List.mem_cons_self ..) hk) ha
      have hb : (x.1 == k) = false := by simp [hk]
      simp only [outsTagged, stream, List.filter_cons, hb, Bool.false_eq_true, if_false]
      exact ih _ _ hown' hfor' h2

/-- `receiveAll` skips the leading `continue`s -/
theorem receiveAll_outs (insts : Nat → List Side) (lim : Limits) (ws : List Bytes) (t : Table) :
    (outs insts lim t ws).filterMap id =
      match receiveAll insts lim t ws with
      | (t', some r, rest) => r :: (outs insts lim t' rest).filterMap id
      | (_, none, _) => [] := by
  induction ws generalizing t with
  | nil => rfl
  | cons w ws ih =>
    cases hs : receiveStep insts lim t w with
    | mk t1 o =>
      cases o with
      | none => simpa [receiveAll, outs, hs] using ih t1
      | some r0 => simp [receiveAll, outs, hs]

theorem receiveAll_rest_lt (insts : Nat → List Side) (lim : Limits) (ws : List Bytes) (t : Table)
    {t' : Table} {r : Res MsgOut} {rest : List Bytes} (h : receiveAll insts lim t ws = (t', some r, rest)) :
    rest.length < ws.length := by
  induction ws generalizing t with
  | nil => simp [receiveAll] at h
  | cons w ws ih =>
    cases hs : receiveStep insts lim t w with
    | mk t1 o =>
      cases o with
      | none =>
        simp only [receiveAll, hs] at h
        exact Nat.lt_succ_of_lt (ih t1 h)
      | some r0 =>
        simp only [receiveAll, hs, Prod.mk.injEq] at h
        rw [← h.2.2]
        exact Nat.lt_succ_self _

/-- `Receive` called again and again returns exactly the non-`continue` results of the loop -/
theorem receiveMany_eq_outs (insts : Nat → List Side) (lim : Limits) :
    ∀ (fuel : Nat) (t : Table) (ws : List Bytes), ws.length ≤ fuel →
      receiveMany insts lim fuel t ws = (outs insts lim t ws).filterMap id := by
  intro fuel
  induction fuel with
  | zero =>
    intro t ws h
    rw [List.length_eq_zero_iff.mp (Nat.le_zero.mp h)]
    rfl
  | succ f ih =>
    intro t ws h
    cases ws with
    | nil => rfl
    | cons w ws =>
      rw [receiveAll_outs, receiveMany]
      -- both sides are a `match` on the result of `receiveAll`: nothing, or a result and the chunks left over
      rcases hr : receiveAll insts lim t (w :: ws) with ⟨t', _ | r, rest⟩
      · rfl
      · have hl := receiveAll_rest_lt insts lim _ t hr
        simp only []
        rw [ih t' rest (by simp at h hl; omega)]

/-- the request id `readChunk` reads back from a chunk the sender wrote -/
theorem reqOf_wire {insts : Nat → List Side} {S : Side} {w : Bytes} {c : RChunk} (hW : WireOK insts S w c) :
    reqOf insts w = some c.requestID := by
  simp only [reqOf, hW.1]

end Opcua.RecvBridge
