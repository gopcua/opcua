import OpcuaModel.Gen.Asym
/-
  Lemmas of `Model/Asym.lean`: the block loops of `encrypt` / `decrypt` over any `BlockRSA`, and what
  the theorems need of the generated table of asymmetric policy rows (`Gen/Asym.lean`).
-/
namespace Opcua.Asym
open Opcua

/-! ### the block loops -/

theorem ceilDiv_zero (mb : Nat) (h : 0 < mb) : ceilDiv 0 mb = 0 := by
  unfold ceilDiv
  exact Nat.div_eq_of_lt (by omega)

theorem ceilDiv_step (n mb : Nat) (hmb : 0 < mb) (hn : 0 < n) :
    ceilDiv n mb = ceilDiv (n - mb) mb + 1 := by
  unfold ceilDiv
  rw [Nat.sub_add_comm hn, Nat.add_div_right _ hmb]
  by_cases h : mb ≤ n
  · rw [Nat.sub_add_cancel h]
  · rw [Nat.sub_eq_zero_of_le (Nat.le_of_not_le h), Nat.zero_add, Nat.div_eq_of_lt (by omega),
      Nat.div_eq_of_lt (by omega)]

theorem ceilDiv_mul (j mb : Nat) (hmb : 0 < mb) : ceilDiv (j * mb) mb = j := by
  induction j with
  | zero => rw [Nat.zero_mul, ceilDiv_zero mb hmb]
  | succ j ih => rw [ceilDiv_step _ mb hmb (Nat.mul_pos j.succ_pos hmb), Nat.succ_mul, Nat.add_sub_cancel, ih]

theorem decBlocks_nil (R : BlockRSA) : decBlocks R [] = some [] := by
  rw [decBlocks, dif_pos (Or.inl List.length_nil)]

theorem decBlocks_append {R : BlockRSA} (hk : 0 < R.k) {c1 c2 : Bytes} (h : c1.length = R.k) :
    decBlocks R (c1 ++ c2) = (R.dec c1).bind fun p => (decBlocks R c2).map (p ++ ·) := by
  rw [decBlocks, dif_neg (by rw [List.length_append]; omega), ← h, List.take_left, List.drop_left]
  cases R.dec c1 <;> rfl

theorem encBlocks_spec (R : BlockRSA) (rnd : Nat → Nat) (mb : Nat) (hmb : 0 < mb)
    (hcap : (mb : Int) ≤ R.cap) (hk : 0 < R.k) (i : Nat) (src : Bytes) :
    ∃ c, encBlocks R rnd mb i src = some c ∧ c.length = ceilDiv src.length mb * R.k ∧
      decBlocks R c = some src := by
  fun_induction encBlocks R rnd mb i src with
  | case1 i src h =>
    obtain rfl : src = [] := List.eq_nil_of_length_eq_zero (by omega)
    exact ⟨[], rfl, by simp [ceilDiv_zero mb hmb], decBlocks_nil R⟩
  | case2 i src h hnone =>
    obtain ⟨c, hc⟩ := R.enc_some (rnd i) (src.take mb) (by rw [List.length_take]; omega)
    rw [hnone] at hc
    cases hc
  | case3 i src h c1 hc1 ih =>
    obtain ⟨c2, hc2, hlen2, hdec2⟩ := ih
    have hlen1 := R.enc_len _ _ _ hc1
    refine ⟨c1 ++ c2, by rw [hc2]; rfl, ?_, ?_⟩
    · rw [List.length_append, hlen1, hlen2, List.length_drop, ceilDiv_step src.length mb hmb (by omega),
        Nat.add_mul, Nat.one_mul, Nat.add_comm]
    · rw [decBlocks_append hk hlen1, R.dec_enc _ _ _ hc1, Option.bind_some, hdec2, Option.map_some,
        List.take_append_drop]

/-- a primitive that takes a non-empty block has a modulus of at least one byte: otherwise two
    one-byte plaintexts would share the empty ciphertext -/
theorem BlockRSA.k_pos (R : BlockRSA) (h : 0 < R.cap) : 0 < R.k := by
  apply Nat.pos_of_ne_zero
  intro h0
  have key : ∀ b : UInt8, R.dec [] = some [b] := by
    intro b
    obtain ⟨c, hc⟩ := R.enc_some 0 [b] (by simp; omega)
    obtain rfl : c = [] := List.eq_nil_of_length_eq_zero (by rw [R.enc_len _ _ _ hc, h0])
    exact R.dec_enc _ _ _ hc
  cases (key 0).symm.trans (key 1)

theorem encrypt_of_pos (R : BlockRSA) (rnd : Nat → Nat) (pad : Int) (h : 0 < (R.k : Int) - pad) (p : Bytes) :
    encrypt true R rnd pad p = (encBlocks R rnd ((R.k : Int) - pad).toNat 0 p).elim .err .ok := by
  simp only [encrypt, Bool.not_true, Bool.false_eq_true, if_false]
  split
  · rename_i h0
    rw [encBlocks, dif_pos (Or.inl h0)]; rfl
  · rw [if_neg (by omega), if_neg (by omega)]
    cases encBlocks R rnd ((R.k : Int) - pad).toNat 0 p <;> rfl

theorem decrypt_of_pos (R : BlockRSA) (hk : 0 < R.k) (c : Bytes) :
    decrypt true R c = (decBlocks R c).elim .err .ok := by
  simp only [decrypt, Bool.not_true, Bool.false_eq_true, if_false]
  split
  · rename_i h0
    rw [List.eq_nil_of_length_eq_zero h0, decBlocks_nil]; rfl
  · rw [if_neg (by omega)]
    cases decBlocks R c <;> rfl

/-! ### the generated rows -/

/-- the guard of every constructor but `None`, for one key: absent, or `lo ≤ bits ≤ hi` -/
def keyGuard (lo hi : Int) (has : Bool) (bits : Int) : Bool := !(has && (decide (bits < lo) || decide (bits > hi)))

theorem keyGuard_iff (lo hi : Int) (has : Bool) (bits : Int) :
    keyGuard lo hi has bits = true ↔ (has = true → lo ≤ bits ∧ bits ≤ hi) := by
  cases has <;> simp [keyGuard]

/-- what the theorems need of a row with keys: the Part 7 limits are its byte constants, its guard
    checks both keys against them, the smallest key leaves a positive block, and the block fits the scheme -/
structure RangeRow (row : AsymRow) : Prop where
  spec : Spec.keyBits row.name = some (8 * row.minKeyBytes, 8 * row.maxKeyBytes)
  accept : row.accept = fun hl l hr r =>
    keyGuard (8 * row.minKeyBytes) (8 * row.maxKeyBytes) hl l && keyGuard (8 * row.minKeyBytes) (8 * row.maxKeyBytes) hr r
  pt : row.ptPad = row.encPad
  pos : row.encPad < row.minKeyBytes
  cap : ∀ k, k - row.encPad ≤ Spec.capacity row.scheme k

theorem rows_range {row : AsymRow} (hr : row ∈ Gen.asymRows) : row = Gen.asymNone ∨ RangeRow row := by
  simp only [Gen.asymRows, List.mem_cons, List.not_mem_nil, or_false] at hr
  rcases hr with rfl | rfl | rfl | rfl | rfl | rfl
  -- the last row is `asymNone`
  rotate_right
  · exact Or.inl rfl
  all_goals
    -- `spec` evaluates the name table; `accept` and `pt` hold by unfolding: the generated guard is literally
    -- `true && !(…) && !(…)` with the row's own limits; `pos` compares two constants of the row
    refine Or.inr ⟨by decide +kernel, rfl, rfl, by decide, fun k => ?_⟩
    -- `cap`: the row's `encPad` against the capacity formula of its scheme, linear in `k`
    simp only [Gen.asymAes128_Sha256_RsaOaep, Gen.asymAes256_Sha256_RsaPss, Gen.asymBasic128Rsa15,
      Gen.asymBasic256, Gen.asymBasic256Sha256, Spec.capacity]
    omega

end Opcua.Asym
