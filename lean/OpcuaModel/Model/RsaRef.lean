import OpcuaModel.Base.Bytes
import OpcuaModel.Model.CryptoRef
/-
  Executable Lean reference for ONE asymmetric primitive (C15):
  RSASSA-PKCS1-v1_5 signature VERIFICATION (RFC 8017 §8.2.2): modular
  exponentiation on `Nat` (square and multiply), OS2IP / I2OSP, EMSA-PKCS1-v1_5
  encoding with the SHA-1 / SHA-256 DigestInfo prefixes. The hash functions
  are the reference of `Model/CryptoRef.lean`.
  OAEP and PSS stay abstract (`Model/Asym.lean`).
-/
namespace Opcua.RsaRef
open Opcua Opcua.CryptoRef

/-! ### OS2IP / I2OSP (big-endian) -/

/-- OS2IP: big-endian octet string → integer -/
def os2ip (b : Bytes) : Nat := leVal b.reverse

/-- I2OSP: integer → big-endian octet string of length `k` (value taken mod 256^k) -/
def i2osp (x k : Nat) : Bytes := (leBytes k x).reverse

theorem i2osp_length (x k : Nat) : (i2osp x k).length = k := by
  simp [i2osp]

theorem os2ip_i2osp (x k : Nat) : os2ip (i2osp x k) = x % 256 ^ k := by
  simp [os2ip, i2osp, leVal_leBytes]

theorem i2osp_os2ip (b : Bytes) : i2osp (os2ip b) b.length = b := by
  have := leBytes_leVal b.reverse
  simp only [List.length_reverse] at this
  simp [i2osp, os2ip, this]

/-! ### Modular exponentiation -/

/-- square and multiply, least significant bit first, tail recursive:
    invariant `result ≡ acc · base^e (mod n)` -/
def modPowAux (n base e acc : Nat) : Nat :=
  if _h : e = 0 then acc
  else modPowAux n (base * base % n) (e / 2) (if e % 2 = 1 then acc * base % n else acc)
termination_by e
decreasing_by omega

/-- `b^e mod n` -/
def modPow (b e n : Nat) : Nat := modPowAux n (b % n) e 1 % n

theorem modPowAux_spec (n : Nat) : ∀ (e base acc : Nat), modPowAux n base e acc % n = acc * base ^ e % n := by
  intro e base acc
  fun_induction modPowAux n base e acc with
  | case1 base acc => simp
  | case2 base e acc h0 ih =>
    -- `base ^ e = (base²)^(e/2) · base^(e%2)`, and the squaring may be done mod `n`
    have he : base ^ e = (base * base) ^ (e / 2) * base ^ (e % 2) := by
      rw [← Nat.pow_two, ← Nat.pow_mul, ← Nat.pow_add, Nat.div_add_mod]
    simp only [dite_eq_ite] at ih
    rw [ih, Nat.mul_mod, ← Nat.pow_mod, ← Nat.mul_mod, he]
    split
    · rename_i hodd
      rw [hodd, Nat.pow_one, Nat.mod_mul_mod, Nat.mul_assoc, Nat.mul_comm base]
    · rename_i hodd
      rw [show e % 2 = 0 by omega, Nat.pow_zero, Nat.mul_one]

theorem modPow_eq (b e n : Nat) : modPow b e n = b ^ e % n := by
  unfold modPow
  rw [modPowAux_spec, Nat.one_mul, ← Nat.pow_mod]

/-! ### EMSA-PKCS1-v1_5 -/

/-- DER prefix of `DigestInfo` (RFC 8017 §9.2 note 1) -/
def digestInfoPrefix : HashAlg → Bytes
  | .sha1 => [0x30, 0x21, 0x30, 0x09, 0x06, 0x05, 0x2b, 0x0e, 0x03, 0x02, 0x1a, 0x05, 0x00, 0x04, 0x14]
  | .sha256 => [0x30, 0x31, 0x30, 0x0d, 0x06, 0x09, 0x60, 0x86, 0x48, 0x01, 0x65, 0x03, 0x04, 0x02, 0x01,
      0x05, 0x00, 0x04, 0x20]

/-- `EM = 0x00 ‖ 0x01 ‖ PS ‖ 0x00 ‖ T`, `T = DigestInfo prefix ‖ digest`, `PS` = at least 8 bytes 0xff;
    `none` = "intended encoded message length too short" -/
def emsaOfDigest (h : HashAlg) (digest : Bytes) (k : Nat) : Option Bytes :=
  let t := digestInfoPrefix h ++ digest
  if k < t.length + 11 then none
  else some (0x00 :: 0x01 :: (List.replicate (k - t.length - 3) 0xff ++ 0x00 :: t))

def hashBytes (h : HashAlg) (msg : Bytes) : Bytes := toBytes (h.run (ofBytes msg))

def emsa (h : HashAlg) (msg : Bytes) (k : Nat) : Option Bytes := emsaOfDigest h (hashBytes h msg) k

/-! ### RSASSA-PKCS1-v1_5 verification -/

/-- length of the modulus in bytes, `rsa.PublicKey.Size()` -/
def byteLen (n : Nat) : Nat := if n = 0 then 0 else Nat.log2 n / 8 + 1

/-- RFC 8017 §8.2.2 (and Go's `rsa.VerifyPKCS1v15`): length check, RSAVP1
    (signature representative out of range → invalid), EMSA-PKCS1-v1_5 of the
    message, comparison of the two encoded messages -/
def rsaVerifyPkcs1v15 (n e : Nat) (h : HashAlg) (msg sig : Bytes) : Bool :=
  let k := byteLen n
  if sig.length ≠ k then false
  else if os2ip sig ≥ n then false
  else match emsa h msg k with
    | none => false
    | some em => i2osp (modPow (os2ip sig) e n) k == em

end Opcua.RsaRef
