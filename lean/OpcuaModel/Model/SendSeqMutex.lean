import OpcuaModel.Model.SendSeqStep
/-
  C16(b): the invariant `InvM` of the UNGUARDED sender / renewal system (every
  interleaving, aborted sends and failed renewals included): mutual exclusion,
  wait-group bookkeeping, one renewal per token.  It is a clause set per thread
  (`ThrM`, about the thread's own `pc` only) plus a shared part (`ShM`), and
  neither reads `pc`: a step is checked for the thread that moves and, clause
  by clause, for what it changes under the others (`ThreadInv.move`).  In
  `invM_step` the new clauses of the thread that moves come from all its old
  ones (`ht`); for the other threads and the shared part a structure update
  lists the clauses the label touches, each closed from the clauses named in
  front of `grind` and the premises of the rule.
-/
namespace Opcua.SendSeq

/-- the instance a thread has read -/
@[simp, grind] def instOf : PC → Option Nat
  | .hasActive i | .added i | .respActive i | .locked i _ | .writing i _ _ _ | .unlocked i => some i
  | .start | .gated | .done => none

/-- the instance whose mutex a thread holds -/
@[simp, grind] def holds : PC → Option Nat
  | .locked i _ | .writing i _ _ _ => some i
  | .start | .gated | .hasActive _ | .added _ | .respActive _ | .unlocked _ | .done => none

/-- counted by `pendingReq` -/
@[simp, grind] def counted : PC → Bool
  | .added _ | .unlocked _ => true
  | .locked _ req | .writing _ req _ _ => req
  | .start | .gated | .hasActive _ | .respActive _ | .done => false

/-- the instance the renewer has created and not yet installed -/
@[grind] def RPC.fresh : RPC → Option Nat
  | .copied j | .sent j => some j
  | .idle | .gateLocked | .waiting | .waited | .wantOld | .holdOld | .installed _ | .failed _ | .releasedOld => none

/-- the renewer holds the mutex of the old instance -/
@[grind] def RPC.holdsOld : RPC → Bool
  | .holdOld | .copied _ | .sent _ | .installed _ | .failed _ => true
  | .idle | .gateLocked | .waiting | .waited | .wantOld | .releasedOld => false

/-- what the invariant of the unguarded system says of thread `t` standing at `p`; does not read `pc` -/
@[grind cases] structure ThrM (s : St) (t : Nat) (p : PC) : Prop where
  /-- `t` owns the mutex of `i` exactly from its `instance.Lock()` to its deferred `Unlock()` -/
  mutex : ∀ i, holds p = some i ↔ s.holder i = some (.s t)
  /-- the instance `getActiveChannelInstance` gave to `t` has been created -/
  instB : ∀ i, instOf p = some i → i < s.nInst
  /-- in the wait group are only threads between their `pendingReq.Add` and `Done` -/
  pendS : Who.s t ∈ s.pend → counted p = true
  /-- a message has at least one chunk and no more are written than it has -/
  wbound : ∀ i req idx cnt, p = .writing i req idx cnt → idx ≤ cnt ∧ 0 < cnt

/-- the part that does not read `pc` -/
structure ShM (s : St) : Prop where
  /-- the only mutex the renewer ever owns is that of the token it renews, between `instance.Lock()` in
      `renew` and the deferred `Unlock()` … -/
  rhold : ∀ i, s.holder i = some .r → s.rpc.holdsOld = true ∧ i = s.old
  /-- … and all that time it does own it -/
  rholdB : s.rpc.holdsOld = true → s.holder s.old = some .r
  /-- only instances that exist are locked -/
  holdB : ∀ i, s.holder i ≠ none → i < s.nInst
  /-- the renewer is never in the wait group: the `Add`/`Done` pair around its OPN request (`open` calls
      `sendRequestWithTimeout`) lies inside the one step `rSendOPN` -/
  pendR : Who.r ∉ s.pend
  /-- a request is counted once -/
  pendN : s.pend.Nodup
  /-- no token is renewed twice (C16, one renewal per token) -/
  onceN : s.renewed.Nodup
  /-- once the renewal of a token has started none is scheduled for it any more; such a token is the active
      one or older -/
  onceS : ∀ i, i ∈ s.renewed → s.sched i = false ∧ i ≤ s.active
  /-- a renewal is only ever scheduled for a token that was installed (the active one or older) -/
  schedA : ∀ i, s.sched i = true → i ≤ s.active
  /-- the active instance and the one being renewed exist -/
  actB : s.active < s.nInst
  oldB : s.old < s.nInst
  /-- the instance `open` has created is newer than the active one: installing it never brings back a
      token that was renewed already -/
  freshB : ∀ j, s.rpc.fresh = some j → s.active < j ∧ j < s.nInst
  /-- while the renewer waits the wait group is not empty (otherwise `Wait` has returned) -/
  waitNE : s.rpc = .waiting → s.pend ≠ []

/-- a change of `holder` that neither gives a mutex to `j` nor takes one from it does not concern `j` -/
theorem ThrM.holder_upd {s : St} {j : Nat} {p : PC} (hj : ThrM s j p) {i : Nat} {w : Option Who}
    (hold : s.holder i ≠ some (.s j)) (hnew : w ≠ some (.s j)) (i' : Nat) :
    holds p = some i' ↔ upd s.holder i w i' = some (.s j) := by
  rw [hj.mutex i', upd_apply]
  split
  · next e => subst e; exact ⟨fun h => absurd h hold, fun h => absurd h hnew⟩
  · exact Iff.rfl

abbrev InvM : St → Prop := ThreadInv ThrM ShM

theorem InvM.holds_excl {s : St} (hi : InvM s) {t₁ t₂ i : Nat} (h₁ : holds (s.pc t₁) = some i)
    (h₂ : holds (s.pc t₂) = some i) : t₁ = t₂ :=
  Who.s.inj (Option.some.inj ((((hi.thr t₁).mutex i).1 h₁).symm.trans (((hi.thr t₂).mutex i).1 h₂)))

theorem invM_init (b : Int) (tk : Nat) : InvM (init b tk) := by
  refine ⟨fun t => ?_, ?_⟩ <;> constructor <;> simp [init, RPC.fresh, RPC.holdsOld]

/-- the renewer moves from `r₀` to `r` without taking or releasing a mutex, creating an instance or
    starting a renewal; `b`, `q`, `w` are arbitrary because `InvM` reads none of `reqLocked`, `seq`, `wire` -/
theorem invM_renewer {s : St} {r₀ r : RPC} (hi : InvM s) (hr : s.rpc = r₀) (hh : r.holdsOld = r₀.holdsOld)
    (hf : r.fresh = none ∨ r.fresh = r₀.fresh) (hw : r = .waiting → s.pend ≠ []) (b : Bool) (q : Nat → Int)
    (w : List Chunk) : InvM { s with rpc := r, reqLocked := b, seq := q, wire := w } := by
  subst hr
  exact ⟨fun j => { hi.thr j with }, { hi.sh with
    rhold := hh ▸ hi.sh.rhold
    rholdB := hh ▸ hi.sh.rholdB
    freshB := fun j e => hf.elim (fun h => nomatch h ▸ e) (fun h => hi.sh.freshB j (h ▸ e))
    waitNE := hw }⟩

theorem invM_step {s s' : St} {l : Label} (hi : InvM s) (h : step? s l = some s') : InvM s' := by
  have hst := Step.of h
  clear h
  cases hst with
  | spawn => exact ⟨fun j => { hi.thr j with }, { hi.sh with }⟩
  | gate t _ hpc | getActive t hpc | respGetActive t _ hpc | newMsg t _ _ _ hpc hcnt | write t _ _ _ _ _ hpc hlt
  | abort t _ _ _ _ hpc =>
    -- only `pc t` and fields the invariant does not read change
    have ht := hi.thr t
    have := hi.sh.actB
    exact hi.move rfl (by constructor <;> grind) (fun _ _ hj => { hj with }) { hi.sh with }
  | pendAdd t i hpc =>
    have ht := hi.thr t
    have hnew : Who.s t ∉ s.pend := by grind
    exact hi.move rfl (by constructor <;> grind) (fun j hjt hj => { hj with pendS := by grind })
      { hi.sh with
        pendR := by have := hi.sh.pendR; grind
        pendN := List.nodup_cons.2 ⟨hnew, hi.sh.pendN⟩
        waitNE := nofun }
  | lockReq t i hpc hfree | lockResp t i hpc hfree =>
    have ht := hi.thr t
    exact hi.move rfl (by constructor <;> grind)
      (fun j hjt hj => { hj with
        mutex := hj.holder_upd (by rw [hfree]; nofun) (fun e => hjt (Who.s.inj (Option.some.inj e)).symm) })
      { hi.sh with
        rhold := by have := hi.sh.rhold; grind
        rholdB := by have := hi.sh.rholdB; grind
        holdB := by have := hi.sh.holdB; grind }
  | unlockInst t i req hpc =>
    have ht := hi.thr t
    have hh : s.holder i = some (.s t) := by grind
    exact hi.move rfl (by cases req <;> constructor <;> grind)
      (fun j hjt hj => { hj with
        mutex := hj.holder_upd (by rw [hh]; exact fun e => hjt (Who.s.inj (Option.some.inj e)).symm) nofun })
      { hi.sh with
        rhold := by have := hi.sh.rhold; grind
        rholdB := by have := hi.sh.rholdB; grind
        holdB := by have := hi.sh.holdB; grind }
  | pendDone t i hpc =>
    -- `Done` for `s` and for `s` with the renewer already past `Wait`: the two outcomes of `settle`
    have done : ∀ {s : St}, InvM s → s.pc t = .unlocked i → (s.rpc = .waiting → s.pend.erase (.s t) ≠ []) →
        InvM { s with pend := s.pend.erase (.s t), pc := upd s.pc t .done } := fun {s} hi hpc hw => by
      have ht := hi.thr t
      have hn := hi.sh.pendN
      have : Who.s t ∉ s.pend.erase (.s t) := fun hm => (hn.mem_erase_iff.1 hm).1 rfl
      exact hi.move rfl (by constructor <;> grind)
        (fun j hjt hj => { hj with pendS := fun hm => hj.pendS (List.mem_of_mem_erase hm) })
        { hi.sh with pendR := fun hm => hi.sh.pendR (List.mem_of_mem_erase hm), pendN := hn.erase _, waitNE := hw }
    exact settle_cases (fun hr _ => done (invM_renewer (r := .waited) hi hr rfl (.inl rfl) nofun _ _ _) hpc nofun)
      (done hi hpc)
  | rLock hr =>
    exact ⟨fun j => { hi.thr j with }, { hi.sh with
      rhold := by have := hi.sh.rhold; grind
      rholdB := by have := hi.sh.rholdB; grind
      onceN := by have := hi.sh.onceN; have := hi.sh.onceS; grind
      onceS := by have := hi.sh.onceS; grind
      schedA := by have := hi.sh.schedA; grind
      oldB := hi.sh.actB
      freshB := nofun
      waitNE := nofun }⟩
  | rWaitBegin hr =>
    exact settle_cases (fun _ _ => invM_renewer (r := .waited) hi hr rfl (.inl rfl) nofun _ _ _)
      (fun hw => invM_renewer (r := .waiting) hi hr rfl (.inl rfl) (fun _ => hw rfl) _ _ _)
  | rWaitDone hr => exact invM_renewer (r := .wantOld) hi hr rfl (.inl rfl) nofun _ _ _
  | rLockOld hr hfree =>
    exact ⟨fun j => { hi.thr j with mutex := (hi.thr j).holder_upd (by rw [hfree]; nofun) nofun }, { hi.sh with
      rhold := by have := hi.sh.rhold; grind
      rholdB := by have := hi.sh.rholdB; grind
      holdB := by have := hi.sh.holdB; have := hi.sh.oldB; grind
      freshB := nofun
      waitNE := nofun }⟩
  | rCopy hr =>
    -- the new instance is `s.nInst`: neither the active nor the old one
    have hact := hi.sh.actB
    have hold := hi.sh.oldB
    exact ⟨fun j => { hi.thr j with
        mutex := (hi.thr j).holder_upd (fun e => Nat.lt_irrefl _ (hi.sh.holdB _ (by rw [e]; nofun))) nofun
        instB := fun i e => Nat.lt_succ_of_lt ((hi.thr j).instB i e) }, { hi.sh with
      rhold := by have := hi.sh.rhold; grind
      rholdB := by have := hi.sh.rholdB; grind
      holdB := by have := hi.sh.holdB; grind
      actB := Nat.lt_succ_of_lt hact
      oldB := Nat.lt_succ_of_lt hold
      freshB := by grind
      waitNE := nofun }⟩
  | rSendOPN sq j hr => exact invM_renewer (r := .sent j) hi hr rfl (.inr rfl) nofun _ _ _
  | rInstall tk j hr =>
    -- the instance installed is newer than the active one and than every renewed one
    have hj := hi.sh.freshB j (by rw [hr]; rfl)
    exact ⟨fun j => { hi.thr j with }, { hi.sh with
      rhold := by have := hi.sh.rhold; grind
      rholdB := by have := hi.sh.rholdB; grind
      onceS := by have := hi.sh.onceS; grind
      schedA := by have := hi.sh.schedA; grind
      actB := hj.2
      freshB := nofun
      waitNE := nofun }⟩
  | rFail j hr => exact invM_renewer (r := .failed j) hi hr rfl (.inl rfl) nofun _ _ _
  | rUnlockOld j hr =>
    have ho : s.holder s.old = some .r := hi.sh.rholdB (by rcases hr with hr | hr <;> rw [hr] <;> rfl)
    exact ⟨fun j => { hi.thr j with mutex := (hi.thr j).holder_upd (by rw [ho]; nofun) nofun }, { hi.sh with
      rhold := by have := hi.sh.rhold; grind
      rholdB := nofun
      holdB := by have := hi.sh.holdB; grind
      freshB := nofun
      waitNE := nofun }⟩
  | rUnlock hr => exact invM_renewer (r := .idle) hi hr rfl (.inl rfl) nofun _ _ _

theorem reachable_invM {s : St} (h : Reachable s) : InvM s := by
  induction h with
  | init b tk => exact invM_init b tk
  | step l _ hs ih => exact invM_step ih hs

end Opcua.SendSeq
