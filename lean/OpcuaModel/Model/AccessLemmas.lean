import OpcuaModel.Model.Access
/-
  Lemmas about the access model: the check against `slotLacks`, what a read leaves of a node (`nsAttribute_snd`
  and its corollaries), the access attributes under a write, nodes of a server under `set` and `step`
  (`step_node` with `Op.nodeAfter`, `step_read_eq`, `step_write_eq`).
-/
namespace Opcua.Access

theorem accessSlot_allow_iff (d : DV) (f : Nat) : accessSlot d f = .allow ↔ slotLacks d f = false := by
  cases d with
  | nilPtr => simp [accessSlot, slotLacks]
  | noVariant => simp [accessSlot, slotLacks]
  | v ty p =>
    by_cases h : ty = tyByte <;> by_cases h2 : p &&& f = 0 <;> simp [accessSlot, slotLacks, h, h2]

/-- the part of a node the property talks about -/
def core (n : Node) : DV × DV × DV := (n.val, n.get aAccessLevel, n.get aUserAccessLevel)

/-- the node after a read: unchanged, or a UInt32 NodeClass entry re-typed to Int32 -/
theorem nsAttribute_snd (n : Node) (attr : Nat) :
    (nsAttribute n attr).2 = n ∨
      ∃ p, n.get aNodeClass = .v tyUInt32 p ∧
        (nsAttribute n attr).2 = { n with attrs := setAttr n.attrs aNodeClass (.v tyInt32 p) } := by
  unfold nsAttribute
  cases access n fRead <;> simp only [true_or]
  by_cases h : attr = aNodeClass
  · subst h
    simp only [aNodeClass, aNodeID, aEventNotifier, Nat.reduceEqDiff, if_false, if_true]
    cases hc : n.get 2 with
    | v ty p => by_cases ht : ty = tyUInt32 <;> simp [ht]
    | _ => simp
  · left
    simp only [h, if_false]
    repeat' split
    all_goals rfl

theorem nsAttribute_val (n : Node) (attr : Nat) : (nsAttribute n attr).2.val = n.val := by
  rcases nsAttribute_snd n attr with h | ⟨p, _, h⟩ <;> rw [h]

theorem nsAttribute_value (n : Node) (d : DV) (h : (nsAttribute n aValue).1 = .value d) : d = n.val := by
  unfold nsAttribute at h
  cases ha : access n fRead <;> simp only [ha] at h
  · simp only [aValue, aNodeID, aEventNotifier, aNodeClass, Nat.reduceEqDiff, ↓reduceIte] at h
    cases hv : n.val <;> simp_all
  · cases h
  · cases h

/-- the read is refused exactly when `Node.Access(read)` says no, whatever the attribute -/
theorem nsAttribute_denied_iff (n : Node) (attr : Nat) :
    (nsAttribute n attr).1 = .status .badUserAccessDenied ↔ access n fRead = .deny := by
  unfold nsAttribute
  cases access n fRead <;> simp only []
  · repeat' split
    all_goals simp
  all_goals simp

theorem core_read (n : Node) (attr : Nat) : core (nsAttribute n attr).2 = core n := by
  rcases nsAttribute_snd n attr with h | ⟨p, _, h⟩ <;> rw [h]
  simp [core, Node.get, lookup_setAttr_other, aNodeClass, aAccessLevel, aUserAccessLevel]

theorem lacks_of_core {n m : Node} (h : core n = core m) (f : Nat) : lacks n f = lacks m f := by
  simp only [core, Prod.mk.injEq] at h
  simp [lacks, h.2.1, h.2.2]

/-- a write that does not target an access attribute keeps both access attributes -/
theorem access_attrs_write (n : Node) (attr : Nat) (d : DV)
    (h : ¬ (attr = aAccessLevel ∨ attr = aUserAccessLevel)) :
    (nsSetAttribute n attr d).2.get aAccessLevel = n.get aAccessLevel ∧
    (nsSetAttribute n attr d).2.get aUserAccessLevel = n.get aUserAccessLevel := by
  have h1 : aAccessLevel ≠ attr := fun e => h (Or.inl e.symm)
  have h2 : aUserAccessLevel ≠ attr := fun e => h (Or.inr e.symm)
  unfold nsSetAttribute
  cases access n fWrite <;> simp only [and_self]
  unfold nodeSet
  split
  · simp [Node.get]
  · simp [Node.get, lookup_setAttr_other _ _ _ _ h1, lookup_setAttr_other _ _ _ _ h2]

theorem node_set_same (sv : Server) (i k : Nat) (s : Store) (n : Node) :
    (sv.set i (s.set k n)).node i k = some n := by
  simp [Server.node, Server.set, Store.set]

theorem node_set_other (sv : Server) (i k i' k' : Nat) (s : Store) (n : Node) (hs : sv i' = some s)
    (h : ¬ (i' = i ∧ k' = k)) :
    (sv.set i' (s.set k' n)).node i k = sv.node i k := by
  by_cases hi : i = i'
  · subst hi
    have hk : k ≠ k' := fun e => h ⟨rfl, e.symm⟩
    simp [Server.node, Server.set, Store.set, hk, hs]
  · simp [Server.node, Server.set, hi]

/-- what an operation does to the node it finds at (i,k) -/
def Op.nodeAfter (i k : Nat) (n : Node) : Op → Node
  | .read i' k' a => if i' = i ∧ k' = k then (nsAttribute n a).2 else n
  | .write i' k' a d => if i' = i ∧ k' = k then (nsSetAttribute n a d).2 else n

/-- what a request can do to the node at (i,k), as a rule for any property of that node: a read of it
    leaves what `nsAttribute` leaves, a write to it what `nsSetAttribute` leaves, anything else the node -/
theorem Op.nodeAfter_rule {P : Node → Prop} (i k : Nat) (n : Node) (op : Op) (keep : P n)
    (read : ∀ a, P (nsAttribute n a).2)
    (write : ∀ a d, op = .write i k a d → P (nsSetAttribute n a d).2) : P (op.nodeAfter i k n) := by
  cases op with
  | read i' k' a =>
    simp only [Op.nodeAfter]
    split
    · exact read a
    · exact keep
  | write i' k' a d =>
    simp only [Op.nodeAfter]
    split
    · next h => obtain ⟨rfl, rfl⟩ := h; exact write a d rfl
    · exact keep

theorem node_eq_some {sv : Server} {i k : Nat} {n : Node} (hn : sv.node i k = some n) :
    ∃ s, sv i = some s ∧ s k = some n := by
  unfold Server.node at hn
  cases hs : sv i with
  | none => simp [hs] at hn
  | some s => exact ⟨s, rfl, by simpa [hs] using hn⟩

/-- replacing the node at (i',k'), if there is one, by its image under `f`: the shape of the state after
    every step -/
theorem node_replace (sv : Server) (i' k' : Nat) (f : Node → Node) (i k : Nat) :
    (match sv i' with
      | none => sv
      | some s => match s k' with
        | none => sv
        | some n => sv.set i' (s.set k' (f n))).node i k =
      (sv.node i k).map fun n => if i' = i ∧ k' = k then f n else n := by
  by_cases hik : i' = i ∧ k' = k
  · obtain ⟨rfl, rfl⟩ := hik
    cases hs : sv i' with
    | none => simp [Server.node, hs]
    | some s => cases hk : s k' <;> simp [Server.node, Server.set, Store.set, hs, hk]
  · simp only [hik, if_false, Option.map_id']
    split
    · rfl
    next s hs =>
      split
      · rfl
      · exact node_set_other sv i k i' k' s _ hs hik

/-- a step creates no node and removes none; the node it finds at (i,k) becomes `op.nodeAfter i k` of it -/
theorem step_node (sv : Server) (op : Op) (i k : Nat) :
    (step sv op).2.node i k = (sv.node i k).map (op.nodeAfter i k) := by
  cases op with
  | read i' k' a =>
    refine Eq.trans (congrArg (fun x : Server => x.node i k) ?_)
      (node_replace sv i' k' (fun n => (nsAttribute n a).2) i k)
    cases hs : sv i' with
    | none => simp [step, hs]
    | some s => cases hk : s k' <;> simp [step, hs, hk]
  | write i' k' a d =>
    refine Eq.trans (congrArg (fun x : Server => x.node i k) ?_)
      (node_replace sv i' k' (fun n => (nsSetAttribute n a d).2) i k)
    cases hs : sv i' with
    | none => simp [step, hs]
    | some s => cases hk : s k' <;> simp [step, hs, hk]

theorem step_read_eq (sv : Server) (i k a : Nat) (s : Store) (n : Node) (hs : sv i = some s) (hk : s k = some n) :
    step sv (.read i k a) = ((nsAttribute n a).1, sv.set i (s.set k (nsAttribute n a).2)) := by
  simp [step, hs, hk]

theorem step_write_eq (sv : Server) (i k a : Nat) (d : DV) (s : Store) (n : Node) (hs : sv i = some s)
    (hk : s k = some n) :
    step sv (.write i k a d) = ((nsSetAttribute n a d).1, sv.set i (s.set k (nsSetAttribute n a d).2)) := by
  simp [step, hs, hk]

/-- the answer to a read of the node at (i,k) -/
theorem step_read_fst (sv : Server) (i k a : Nat) (n : Node) (hn : sv.node i k = some n) :
    (step sv (.read i k a)).1 = (nsAttribute n a).1 := by
  obtain ⟨s, hs, hk⟩ := node_eq_some hn
  rw [step_read_eq sv i k a s n hs hk]

theorem run_nil (sv : Server) : run sv [] = ([], sv) := rfl

theorem run_cons (sv : Server) (op : Op) (r : List Op) :
    run sv (op :: r) = ((step sv op).1 :: (run (step sv op).2 r).1, (run (step sv op).2 r).2) := rfl

theorem run_length (sv : Server) (ops : List Op) : (run sv ops).1.length = ops.length := by
  induction ops generalizing sv with
  | nil => rfl
  | cons op r ih => simp [run_cons, ih]

end Opcua.Access
