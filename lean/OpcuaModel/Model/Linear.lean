import OpcuaModel.Model.AccessLemmas
/-
  Linearizability of a server whose requests are executed by ONE dispatcher
  goroutine (C34).

  Part 1 is generic: a machine with state `σ` and an atomic handler
  `step : σ → O → R × σ`.  Clients invoke operations (`inv`), the dispatcher
  takes a pending operation and runs the handler to completion (`disp`; this is
  `monitorConnections` calling `handleService` synchronously — the structural
  facts are generated into `Gen/Dispatch.lean`), the response reaches the client
  (`resp`).  `mrun` accepts exactly the well-formed traces.  The dispatch order
  `log` is a linearization: it is a legal sequential history of `step`, every
  response carries the value the sequential run gave, and it respects real time.

  Part 2 instantiates `step` with the attribute service model of C31
  (`Access.step`) and shows that it refines one register per node.
-/
namespace Opcua.Linear

inductive Ev (O R : Type) where
  | inv (id : Nat) (op : O)
  | disp (id : Nat)
  | resp (id : Nat) (r : R)

structure M (σ O R : Type) where
  st : σ
  /-- invoked, not yet dispatched -/
  pend : List (Nat × O)
  /-- dispatched, response not yet delivered -/
  done : List (Nat × R)
  /-- dispatch order: (id, operation, result) -/
  log : List (Nat × O × R)
  /-- every id ever invoked -/
  used : List Nat

def M.init {σ O R : Type} (s : σ) : M σ O R := ⟨s, [], [], [], []⟩

variable {σ O R : Type} [DecidableEq R]

def findOp (l : List (Nat × O)) (id : Nat) : Option O :=
  match l with
  | [] => none
  | (k, o) :: r => if k = id then some o else findOp r id

def mstep (step : σ → O → R × σ) (m : M σ O R) : Ev O R → Option (M σ O R)
  | .inv id op => if id ∈ m.used then none else some { m with pend := m.pend ++ [(id, op)], used := id :: m.used }
  | .disp id =>
    match findOp m.pend id with
    | none => none
    | some op =>
      let (r, s') := step m.st op
      some { m with st := s', pend := m.pend.filter (·.1 ≠ id), done := (id, r) :: m.done, log := m.log ++ [(id, op, r)] }
  | .resp id r => if (id, r) ∈ m.done then some { m with done := m.done.filter (·.1 ≠ id) } else none

def mrun (step : σ → O → R × σ) (m : M σ O R) : List (Ev O R) → Option (M σ O R)
  | [] => some m
  | e :: r => match mstep step m e with
    | none => none
    | some m' => mrun step m' r

/-- the sequential specification: the handler applied to the operations one by one -/
def seqRun (step : σ → O → R × σ) (s : σ) : List O → List R × σ
  | [] => ([], s)
  | o :: r => let (x, s') := step s o; let (xs, s'') := seqRun step s' r; (x :: xs, s'')

theorem seqRun_append (step : σ → O → R × σ) (s : σ) (l : List O) (o : O) :
    seqRun step s (l ++ [o]) =
      ((seqRun step s l).1 ++ [(step (seqRun step s l).2 o).1], (step (seqRun step s l).2 o).2) := by
  induction l generalizing s with
  | nil => simp [seqRun]
  | cons a r ih => simp [seqRun, ih]

theorem mrun_cons (step : σ → O → R × σ) (m : M σ O R) (e : Ev O R) (r : List (Ev O R)) :
    mrun step m (e :: r) = (mstep step m e).bind fun m' => mrun step m' r := by
  rw [mrun]; cases mstep step m e <;> rfl

def logIds (l : List (Nat × O × R)) : List Nat := l.map (·.1)

/-- invariant of well-formed runs from `s0` -/
structure WF (step : σ → O → R × σ) (s0 : σ) (m : M σ O R) : Prop where
  legal : seqRun step s0 (m.log.map (·.2.1)) = (m.log.map (·.2.2), m.st)
  doneLogged : ∀ id r, (id, r) ∈ m.done → ∃ op, (id, op, r) ∈ m.log
  logUsed : ∀ id, id ∈ logIds m.log → id ∈ m.used
  pendUsed : ∀ id op, (id, op) ∈ m.pend → id ∈ m.used

theorem findOp_mem {l : List (Nat × O)} {id : Nat} {op : O} (h : findOp l id = some op) : (id, op) ∈ l := by
  fun_induction findOp l id <;> simp_all

/-! what each kind of event asks of the machine and does to it -/

theorem mstep_inv {step : σ → O → R × σ} {m m' : M σ O R} {id : Nat} {op : O}
    (h : mstep step m (.inv id op) = some m') :
    id ∉ m.used ∧ m' = { m with pend := m.pend ++ [(id, op)], used := id :: m.used } := by
  simp only [mstep] at h
  split at h
  · cases h
  · exact ⟨‹_›, (Option.some.inj h).symm⟩

theorem mstep_disp {step : σ → O → R × σ} {m m' : M σ O R} {id : Nat}
    (h : mstep step m (.disp id) = some m') :
    ∃ op, findOp m.pend id = some op ∧
      m' = { m with st := (step m.st op).2, pend := m.pend.filter (·.1 ≠ id),
                    done := (id, (step m.st op).1) :: m.done, log := m.log ++ [(id, op, (step m.st op).1)] } := by
  simp only [mstep] at h
  cases hf : findOp m.pend id with
  | none => simp [hf] at h
  | some op => exact ⟨op, rfl, by simpa [hf] using h.symm⟩

theorem mstep_resp {step : σ → O → R × σ} {m m' : M σ O R} {id : Nat} {r : R}
    (h : mstep step m (.resp id r) = some m') :
    (id, r) ∈ m.done ∧ m' = { m with done := m.done.filter (·.1 ≠ id) } := by
  simp only [mstep] at h
  split at h
  · exact ⟨‹_›, (Option.some.inj h).symm⟩
  · cases h

theorem WF_init (step : σ → O → R × σ) (s0 : σ) : WF step s0 (M.init s0 : M σ O R) :=
  ⟨rfl, by simp [M.init], by simp [M.init, logIds], by simp [M.init]⟩

theorem WF_step (step : σ → O → R × σ) (s0 : σ) (m m' : M σ O R) (e : Ev O R)
    (hw : WF step s0 m) (h : mstep step m e = some m') :
    WF step s0 m' ∧ ∃ l, m'.log = m.log ++ l := by
  cases e with
  | inv id op =>
    obtain ⟨_, rfl⟩ := mstep_inv h
    refine ⟨⟨hw.legal, hw.doneLogged, fun i hi => ?_, fun i o hi => ?_⟩, [], by simp⟩
    · simp [hw.logUsed i hi]
    · simp only [List.mem_append, List.mem_singleton, Prod.mk.injEq] at hi
      rcases hi with hi | ⟨rfl, _⟩
      · simp [hw.pendUsed i o hi]
      · simp
  | disp id =>
    obtain ⟨op, hf, rfl⟩ := mstep_disp h
    refine ⟨⟨?_, fun i r hi => ?_, fun i hi => ?_, fun i o hi => ?_⟩, _, rfl⟩
    · simp only [List.map_append, List.map_cons, List.map_nil]
      rw [seqRun_append, hw.legal]
    · simp only [List.mem_cons, Prod.mk.injEq] at hi
      rcases hi with ⟨rfl, rfl⟩ | hi
      · exact ⟨op, by simp⟩
      · obtain ⟨o, ho⟩ := hw.doneLogged i r hi
        exact ⟨o, by simp [ho]⟩
    · simp only [logIds, List.map_append, List.map_cons, List.map_nil, List.mem_append,
        List.mem_singleton] at hi
      rcases hi with hi | rfl
      · exact hw.logUsed i hi
      · exact hw.pendUsed _ op (findOp_mem hf)
    · exact hw.pendUsed i o (List.mem_filter.1 hi).1
  | resp id r =>
    obtain ⟨_, rfl⟩ := mstep_resp h
    exact ⟨⟨hw.legal, fun i x hi => hw.doneLogged i x (List.mem_filter.1 hi).1, hw.logUsed, hw.pendUsed⟩,
      [], by simp⟩

/-- along a run the invariant is kept, the log only grows, and a response is only delivered for an
    operation that is in the dispatch log, with the logged result -/
theorem WF_run (step : σ → O → R × σ) (s0 : σ) :
    ∀ (tr : List (Ev O R)) (m m' : M σ O R), WF step s0 m → mrun step m tr = some m' →
      WF step s0 m' ∧ (∃ l, m'.log = m.log ++ l) ∧
      ∀ id r, Ev.resp id r ∈ tr → ∃ op, (id, op, r) ∈ m'.log := by
  intro tr
  induction tr with
  | nil =>
    intro m m' hw h
    cases h
    exact ⟨hw, ⟨[], by simp⟩, fun _ _ h => nomatch h⟩
  | cons e rest ih =>
    intro m m' hw h
    rw [mrun_cons] at h
    obtain ⟨m1, hs, h⟩ := Option.bind_eq_some_iff.1 h
    obtain ⟨hw1, l1, hl1⟩ := WF_step step s0 m m1 e hw hs
    obtain ⟨hw2, ⟨l2, hl2⟩, hr⟩ := ih m1 m' hw1 h
    refine ⟨hw2, ⟨l1 ++ l2, by rw [hl2, hl1, List.append_assoc]⟩, fun id r hm => ?_⟩
    rcases List.mem_cons.1 hm with rfl | hm
    · -- this very event: (id, r) ∈ m.done, hence logged already, and the log only grows
      obtain ⟨op, hop⟩ := hw.doneLogged id r (mstep_resp hs).1
      exact ⟨op, by rw [hl2, hl1]; simp [hop]⟩
    · exact hr id r hm

theorem mrun_append (step : σ → O → R × σ) (m : M σ O R) (t1 t2 : List (Ev O R)) :
    mrun step m (t1 ++ t2) = (mrun step m t1).bind (fun m1 => mrun step m1 t2) := by
  induction t1 generalizing m with
  | nil => simp [mrun]
  | cons e r ih => simp only [List.cons_append, mrun_cons, ih, Option.bind_assoc]

/-! ### part 2: registers -/

open Opcua.Access

abbrev Key := Nat × Nat
abbrev Regs := Key → Option DV

/-- abstraction map: the value slot of every node -/
def abs (sv : Server) : Regs := fun k => (sv.node k.1 k.2).map (·.val)

/-- what a request is, as a register operation, judged by its answer: only
    SUCCESSFUL reads and writes of the Value attribute are register operations -/
inductive RegEv where
  | read (k : Key) (d : DV)
  | write (k : Key) (d : DV)
  | none

def regEv : Op → Res → RegEv
  | .read i k a, .value d => if a = aValue then .read (i, k) d else .none
  | .write i k a d, .status .ok => if a = aValue then .write (i, k) d else .none
  | _, _ => .none

def Regs.set (r : Regs) (k : Key) (d : DV) : Regs := fun j => if j = k then some d else r j

theorem abs_eq (sv : Server) (i k : Nat) (s : Store) (n : Node) (hs : sv i = some s) (hk : s k = some n) :
    abs sv (i, k) = some n.val := by
  simp [abs, Server.node, hs, hk]

theorem Regs.set_eq_self {r : Regs} {k : Key} {d : DV} (h : r k = some d) : r.set k d = r := by
  funext j
  by_cases hj : j = k
  · simp [Regs.set, hj, h]
  · simp [Regs.set, hj]

/-- replacing a node sets its register and no other -/
theorem abs_set (sv : Server) (i k : Nat) (s : Store) (n : Node) (hs : sv i = some s) :
    abs (sv.set i (s.set k n)) = (abs sv).set (i, k) n.val := by
  funext ⟨a, b⟩
  by_cases hj : i = a ∧ k = b
  · obtain ⟨rfl, rfl⟩ := hj
    simp [abs, node_set_same, Regs.set]
  · have hne : (a, b) ≠ (i, k) := fun e => hj ⟨(Prod.mk.inj e).1.symm, (Prod.mk.inj e).2.symm⟩
    simp [abs, node_set_other sv a b i k s n hs hj, Regs.set, hne]

/-- … so replacing it by a node with the same value changes no register -/
theorem abs_set_keep (sv : Server) (i k : Nat) (s : Store) (n n' : Node) (hs : sv i = some s)
    (hk : s k = some n) (hv : n'.val = n.val) : abs (sv.set i (s.set k n')) = abs sv := by
  rw [abs_set sv i k s n' hs, hv, Regs.set_eq_self (abs_eq sv i k s n hs hk)]

/-- One handler step against one register per node, as implications a proof can rewrite with: a step that
    counts as a register read returns the register, one that counts as a write sets exactly that register,
    and a step that is no write changes no register.  `Props.C34.C34_step_refines` is the same as a `match`. -/
theorem step_refines (sv : Server) (op : Op) :
    (∀ k d, regEv op (step sv op).1 = .read k d → abs sv k = some d) ∧
    (∀ k d, regEv op (step sv op).1 = .write k d →
      (∃ old, abs sv k = some old) ∧ abs (step sv op).2 = (abs sv).set k d) ∧
    ((∀ k d, regEv op (step sv op).1 ≠ .write k d) → abs (step sv op).2 = abs sv) := by
  cases op with
  | read i k a =>
    cases hs : sv i with
    | none => simp [step, hs, regEv]
    | some s =>
      cases hk : s k with
      | none => simp [step, hs, hk, regEv]
      | some n =>
        rw [step_read_eq sv i k a s n hs hk]
        have hkeep := abs_set_keep sv i k s n _ hs hk (nsAttribute_val n a)
        cases hr : (nsAttribute n a).1 with
        | status st => simp [regEv, hkeep]
        | panic => simp [regEv, hkeep]
        | value d =>
          by_cases ha : a = aValue
          · subst ha
            simpa [regEv, hkeep, nsAttribute_value n d hr] using abs_eq sv i k s n hs hk
          · simp [regEv, ha, hkeep]
  | write i k a d =>
    cases hs : sv i with
    | none => simp [step, hs, regEv]
    | some s =>
      cases hk : s k with
      | none => simp [step, hs, hk, regEv]
      | some n =>
        rw [step_write_eq sv i k a d s n hs hk]
        unfold nsSetAttribute
        cases hacc : access n fWrite with
        | panic => simpa [regEv] using abs_set_keep sv i k s n n hs hk rfl
        | deny => simpa [regEv] using abs_set_keep sv i k s n n hs hk rfl
        | allow =>
          by_cases ha : a = aValue
          · subst ha
            simpa [regEv, abs_set sv i k s _ hs, nodeSet] using ⟨n.val, abs_eq sv i k s n hs hk⟩
          · simpa [regEv, ha] using abs_set_keep sv i k s n _ hs hk (by simp [nodeSet, ha])

end Opcua.Linear
