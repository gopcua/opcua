import OpcuaModel.Model.Recv
/-
  Raw-frame layer of the receive path (C13): what `SecureChannel.Receive` does
  with one frame handed up by `uacp.Conn.Receive`, for client and server kind
  channels, before and after the channel is open — `Conn.Receive` (buffer
  allocation), `readChunk` (header slicing, `MessageChunk.Decode`, the switch on
  the message type, `verifyAndDecrypt`, sequence header) and then the loop body
  of `Receive` (`Recv.step`).

  Crypto is an oracle carried by the frame: on a secured channel a frame either
  was produced by the reference sealer (`opens = some p`: the signature verifies
  and `p` is the decrypted plaintext between the security header and the
  signature — sequence header, body and, under SignAndEncrypt, the padding with
  its size byte, which the sealer may have filled with hostile values) or it
  does not verify; for an OPN frame that names a
  policy other than None the verdict of x509 / uapolicy about (policy URI,
  certificate) is `cert`, and since the runners never send a correctly
  encrypted OPN the asymmetric verification fails.  Everything else — framing
  lengths, header fields, length-prefixed fields, the error taken at every
  point — is computed from the raw bytes.

  The tree modelled is the one with the C09 repair (`verifyAndDecrypt` checks
  the chunk length before slicing the signature): no panic site is left in the
  crypto layer.
-/
namespace Opcua.Recv.Raw
open Opcua Opcua.Recv

inductive CertClass where
  /-- `uapolicy.ParseCertificate` fails -/
  | certErr
  /-- the public key is not RSA: `StatusBadCertificateInvalid` -/
  | notRsa
  /-- `uapolicy.Asymmetric`: unsupported security policy -/
  | policyErr
  | ok
  deriving Repr, DecidableEq

structure Frame where
  raw : Bytes
  opens : Option Bytes := none
  cert : CertClass := .ok
  deriving Repr, DecidableEq

inductive ErrCls where
  /-- `sechan: decode chunk failed` -/
  | decodeChunk
  /-- `sechan: invalid state. openingInstance is nil.` -/
  | noOpening
  | cert | notRsa | policy
  /-- `sechan: unable to find instance for SecureChannelID` -/
  | noInstance
  /-- `StatusBadSecurityChecksFailed` -/
  | security
  /-- `sechan: decode sequence header failed` -/
  | seqHeader
  deriving Repr, DecidableEq

inductive PanicSite where
  /-- `b[:hdrlen]` in `Conn.Receive` with `ReceiveBufSize < 8` -/
  | connSmallBuf
  /-- `b[:hdrlen]` (12) in `readChunk` with a frame and a buffer shorter than 12 -/
  | headerSlice
  deriving Repr, DecidableEq

inductive RawOut where
  | panic (site : PanicSite)
  /-- `io.EOF` (a CLO chunk) -/
  | eof
  | err (c : ErrCls)
  /-- the frame reached the loop body of `Receive` -/
  | out (o : Out)
  deriving Repr, DecidableEq

structure RawCfg where
  /-- `c.ack.ReceiveBufSize`: size of the buffer `Conn.Receive` allocates per call -/
  rcvBuf : Nat
  limits : Cfg
  /-- `cfg.SecurityMode != None` (an open Sign / SignAndEncrypt channel) -/
  secure : Bool
  /-- `cfg.SecurityMode == SignAndEncrypt` -/
  encrypt : Bool := false
  deriving Repr, DecidableEq

structure RawSt where
  bufs : Bufs
  /-- `s.openingInstance != nil`: always on a server channel, on a client only while `open()` runs -/
  opening : Bool
  /-- channel ids with stored instances -/
  chans : List Nat
  /-- an OPN frame naming a real policy with an acceptable certificate has made
      `readChunk` install an asymmetric algorithm in the opening instance
      (`s.openingInstance.algo = algo`); on a server channel that object is also
      the active instance, so symmetric chunks no longer verify -/
  clobbered : Bool := false
  deriving Repr, DecidableEq

def tOPN : Bytes := [79, 80, 78]
def tMSG : Bytes := [77, 83, 71]
def tCLO : Bytes := [67, 76, 79]
def tERR : Bytes := [69, 82, 82]
/-- "http://opcfoundation.org/UA/SecurityPolicy#None" -/
def policyNone : Bytes := [104, 116, 116, 112, 58, 47, 47, 111, 112, 99, 102, 111, 117, 110, 100, 97, 116, 105, 111, 110, 46, 111, 114, 103, 47, 85, 65, 47, 83, 101, 99, 117, 114, 105, 116, 121, 80, 111, 108, 105, 99, 121, 35, 78, 111, 110, 101]

/-- `ua.Buffer.ReadBytes`: length 0 and 0xffffffff read as nil, a length beyond
    the buffer is an error; returns (content, rest) -/
def readBytes (b : Bytes) : Option (Bytes × Bytes) :=
  if b.length < 4 then none else
  let n := leVal (b.take 4)
  let r := b.drop 4
  if n = 0 ∨ n = 4294967295 then some ([], r)
  else if n > r.length then none else some (r.take n, r.drop n)

/-- `AsymmetricSecurityHeader.Decode`: policy URI, sender certificate,
    receiver thumbprint; returns (uri, certificate, rest) -/
def parseAsym (b : Bytes) : Option (Bytes × Bytes × Bytes) :=
  match readBytes b with
  | none => none
  | some (uri, r1) =>
    match readBytes r1 with
    | none => none
    | some (cert, r2) =>
      match readBytes r2 with
      | none => none
      | some (_, r3) => some (uri, cert, r3)

/-- `SequenceHeader.Decode` + the loop body of `Receive` on the plaintext
    that follows the security header -/
def finish (cfg : RawCfg) (st : RawSt) (ct : Nat) (data : Bytes) : RawSt × RawOut :=
  if data.length < 8 then (st, .err .seqHeader) else
  let c : Chunk := ⟨ct, leVal (data.take 4), leVal ((data.drop 4).take 4), data.drop 8⟩
  ({ st with bufs := (step cfg.limits st.bufs c).1 }, .out (step cfg.limits st.bufs c).2)

/-- `channelInstance.verifyAndDecrypt` after the signature has verified: `p` is
    the decrypted plaintext between the security header and the signature -/
def verified (cfg : RawCfg) (st : RawSt) (ct : Nat) (p : Bytes) : RawSt × RawOut :=
  if st.clobbered then (st, .err .security) else
  if cfg.encrypt then
    -- paddingLength = int(messageToVerify[len-1]) + 1;
    -- if paddingLength > len(messageToVerify)-headerLength { BadSecurityChecksFailed }  (C09 repair)
    -- b = messageToVerify[headerLength : len(messageToVerify)-paddingLength]
    match p.getLast? with
    | none => (st, .err .security)
    | some x =>
      if x.toNat + 1 > p.length then (st, .err .security)
      else finish cfg st ct (p.take (p.length - (x.toNat + 1)))
  else finish cfg st ct p

/-- one frame through `Conn.Receive`, `readChunk` and the loop body of `Receive` -/
def rawStep (cfg : RawCfg) (st : RawSt) (f : Frame) : RawSt × RawOut :=
  let b := f.raw
  -- Conn.Receive: b := make([]byte, ReceiveBufSize); io.ReadFull(c, b[:hdrlen])
  if cfg.rcvBuf < 8 then (st, .panic .connSmallBuf) else
  -- Conn.Receive turns an ERR frame into an error and returns no bytes; readChunk:
  -- `if err == io.EOF || len(b) == 0 { return nil, io.EOF }` — every error of Conn.Receive ends as EOF
  if b.take 3 = tERR then (st, .eof) else
  -- readChunk: h.Decode(b[:hdrlen]) with hdrlen = 12: slicing beyond len(b) is legal up to cap(b) = ReceiveBufSize
  if b.length < 12 ∧ cfg.rcvBuf < 12 then (st, .panic .headerSlice) else
  -- m.Decode(b): Header.Decode needs 12 bytes
  if b.length < 12 then (st, .err .decodeChunk) else
  let mt := b.take 3
  let ct := (b.getD 3 0).toNat
  let chan := leVal ((b.drop 8).take 4)
  if mt = tOPN then
    match parseAsym (b.drop 12) with
    | none => (st, .err .decodeChunk)
    | some (uri, _, data) =>
      if st.opening = false then (st, .err .noOpening) else
      if uri ≠ policyNone then
        match f.cert with
        | .certErr => (st, .err .cert)
        | .notRsa => (st, .err .notRsa)
        | .policyErr => (st, .err .policy)
        | .ok => ({ st with clobbered := true }, .err .security)
      else if cfg.secure then (st, .err .security)
      else finish cfg st ct data
  else if mt = tMSG ∨ mt = tCLO then
    -- SymmetricSecurityHeader: 4 more bytes
    if b.length < 16 then (st, .err .decodeChunk) else
    if mt = tCLO then (st, .eof) else
    if ¬ chan ∈ st.chans then (st, .err .noInstance) else
    if cfg.secure then
      match f.opens with
      | some p => verified cfg st ct p
      | none => (st, .err .security)
    else finish cfg st ct (b.drop 16)
  else (st, .err .decodeChunk)

/-- `Receive` is called again and again; a panic and EOF end the run -/
def runRaw (cfg : RawCfg) : RawSt → List Frame → List RawOut
  | _, [] => []
  | st, f :: fs =>
    match (rawStep cfg st f).2 with
    | .panic s => [.panic s]
    | .eof => [.eof]
    | o => o :: runRaw cfg (rawStep cfg st f).1 fs

def runRawFinal (cfg : RawCfg) : RawSt → List Frame → RawSt
  | st, [] => st
  | st, f :: fs =>
    match (rawStep cfg st f).2 with
    | .panic _ => st
    | .eof => st
    | _ => runRawFinal cfg (rawStep cfg st f).1 fs

def RawOut.isPanic : RawOut → Bool
  | .panic _ => true
  | _ => false

def RawOut.stops : RawOut → Bool
  | .panic _ => true
  | .eof => true
  | _ => false

/-! ### the client's handshake: which receive buffer size can be in force

  `uacp.Conn.Handshake` (after `fix:` 30678c7): the Acknowledge of the server is
  refused when its receive or send buffer size is below `minBuf`
  (`Gen.RecvFacts.ackMinBufSize`, 0 = no check: the code before the repair);
  otherwise it is adopted, the receive buffer size capped by the value of the
  client's own Hello when that is not 0 (`capped` = `Gen.RecvFacts.ackRcvCappedByHello`). -/

/-- `none` = the handshake is refused (ERRF sent, `c.ack` stays the client's own
    configuration, `Dial` closes the connection); `some b` = the receive buffer
    size in force afterwards -/
def handshake (minBuf : Nat) (capped : Bool) (own ackRcv ackSnd : Nat) : Option Nat :=
  if ackRcv < minBuf ∨ ackSnd < minBuf then none
  else if capped ∧ own ≠ 0 ∧ ackRcv > own then some own
  else some ackRcv

/-- after a successful handshake of a client whose own value is 0 or at least
    `minBuf`, the receive buffer has at least `minBuf` bytes … -/
theorem handshake_lower {minBuf : Nat} {capped : Bool} {own r s b : Nat}
    (h : handshake minBuf capped own r s = some b) : (own = 0 ∨ minBuf ≤ own) → minBuf ≤ b := by
  unfold handshake at h
  intro ho
  split at h
  · cases h
  · split at h <;> cases h <;> omega

/-- … and, with the cap, never more than the client announced itself -/
theorem handshake_upper {minBuf own r s b : Nat}
    (h : handshake minBuf true own r s = some b) (ho : own ≠ 0) : b ≤ own := by
  unfold handshake at h
  split at h
  · cases h
  · split at h
    · cases h; exact Nat.le_refl _
    · rename_i h2
      cases h
      simp at h2
      exact h2 ho

/-! ### the ways a path through `rawStep` can end (`rawStep_cases`) -/

theorem readBytes_rest_le {b c r : Bytes} (h : readBytes b = some (c, r)) : r.length + 4 ≤ b.length := by
  simp only [readBytes] at h
  -- the rest is `b.drop 4`, or that without the content, which `readBytes` has checked to be there
  split at h
  · cases h
  · split at h
    · cases h; simp only [List.length_drop]; omega
    · split at h
      · cases h
      · cases h; simp only [List.length_drop]; omega

theorem parseAsym_rest_le {b u c r : Bytes} (h : parseAsym b = some (u, c, r)) : r.length + 12 ≤ b.length := by
  unfold parseAsym at h
  -- three `readBytes` in a row, each leaving at least 4 bytes fewer
  split at h
  · cases h
  next _ r1 h1 =>
    split at h
    · cases h
    next _ r2 h2 =>
      split at h
      · cases h
      next _ r3 h3 =>
        cases h
        have := readBytes_rest_le h1
        have := readBytes_rest_le h2
        have := readBytes_rest_le h3
        omega

/-- `finish` refuses a plaintext without a sequence header or hands a chunk to `Recv.step`,
    whose payload is the plaintext without its first 8 bytes -/
theorem finish_cases {P : RawSt × RawOut → Prop} (cfg : RawCfg) (st : RawSt) (ct : Nat) (data : Bytes)
    (short : P (st, .err .seqHeader))
    (out : ∀ c : Chunk, c.data.length + 8 ≤ data.length →
      P ({ st with bufs := (step cfg.limits st.bufs c).1 }, .out (step cfg.limits st.bufs c).2)) :
    P (finish cfg st ct data) := by
  unfold finish
  exact iteInduction (fun _ => short) fun _ => out _ (by simp only [List.length_drop]; omega)

/-- `verified` refuses the chunk or passes some plaintext on to `finish` -/
theorem verified_cases {P : RawSt × RawOut → Prop} (cfg : RawCfg) (st : RawSt) (ct : Nat) (p : Bytes)
    (stay : P (st, .err .security)) (fin : ∀ data, P (finish cfg st ct data)) :
    P (verified cfg st ct p) := by
  unfold verified
  refine iteInduction (fun _ => stay) (fun _ => iteInduction (fun _ => ?_) (fun _ => fin _))
  cases p.getLast? with
  | none => exact stay
  | some x => exact iteInduction (fun _ => stay) (fun _ => fin _)

/-- Every path through `rawStep` ends in one of four ways: the state is left alone without a panic, or
    with one under a receive buffer below 12 bytes; the opening instance is clobbered; or a chunk goes
    through `Recv.step` — on an unsecured channel its payload is at most the frame without its first 24 bytes. -/
theorem rawStep_cases {P : RawSt × RawOut → Prop} (cfg : RawCfg) (st : RawSt) (f : Frame)
    (keep : ∀ o, o.isPanic = false → P (st, o))
    (panic : cfg.rcvBuf < 12 → ∀ s, P (st, .panic s))
    (clobber : P ({ st with clobbered := true }, .err .security))
    (out : ∀ c : Chunk, (cfg.secure = false → c.data.length + 24 ≤ f.raw.length) →
      P ({ st with bufs := (step cfg.limits st.bufs c).1 }, .out (step cfg.limits st.bufs c).2)) :
    P (rawStep cfg st f) := by
  have err : ∀ e, P (st, .err e) := fun _ => keep _ rfl
  have fin : ∀ ct data, (cfg.secure = false → data.length + 16 ≤ f.raw.length) → P (finish cfg st ct data) :=
    fun ct data hd => finish_cases cfg st ct data (err _) fun c hc => out c fun hs => by have := hd hs; omega
  unfold rawStep
  simp only []  -- unfolds the `let`s of `rawStep`
  -- `iteInduction` with `P` a variable unifies at once, where `split` costs millions of heartbeats per `if` of `rawStep`
  refine iteInduction (fun _ => panic (by omega) _) fun _ => ?_
  refine iteInduction (fun _ => keep _ rfl) fun _ => ?_
  refine iteInduction (fun h => panic h.2 _) fun _ => ?_
  refine iteInduction (fun _ => err _) fun h12 => ?_
  refine iteInduction (fun _ => ?_) fun _ => iteInduction (fun _ => ?_) fun _ => err _
  · cases hp : parseAsym (f.raw.drop 12) with
    | none => exact err _
    | some p =>
      refine iteInduction (fun _ => err _) fun _ => iteInduction (fun _ => ?_) fun _ =>
        iteInduction (fun _ => err _) fun _ => fin _ _ fun _ => ?_
      · cases f.cert with
        | ok => exact clobber
        | _ => exact err _
      · have := parseAsym_rest_le hp
        simp only [List.length_drop] at this
        omega
  · refine iteInduction (fun _ => err _) fun h16 => iteInduction (fun _ => keep _ rfl) fun _ =>
      iteInduction (fun _ => err _) fun _ => iteInduction (fun hs => ?_) fun _ => fin _ _ fun _ => ?_
    · cases f.opens with
      | none => exact err _
      | some p => exact verified_cases cfg st _ p (err _) fun d => fin _ d fun h => by rw [hs] at h; cases h
    · simp only [List.length_drop]; omega

/-! ### the exact payload bound of unsecured frames -/

/-- one frame of at most `rcvBuf` bytes on an unsecured channel: every retained
    chunk carries at most `rcvBuf − 24` payload bytes (12 header + 4 token id +
    8 sequence header; an OPN frame has at least 12 bytes of security header) -/
theorem rawStep_boundedB (cfg : RawCfg) (hact : limitActive cfg.limits) (hsec : cfg.secure = false)
    (st : RawSt) (f : Frame) (hlen : f.raw.length ≤ cfg.rcvBuf)
    (h : BoundedB (cfg.rcvBuf - 24) cfg.limits.maxChunkCount st.bufs) :
    BoundedB (cfg.rcvBuf - 24) cfg.limits.maxChunkCount (rawStep cfg st f).1.bufs :=
  rawStep_cases (P := fun r => BoundedB (cfg.rcvBuf - 24) cfg.limits.maxChunkCount r.1.bufs) cfg st f
    (fun _ _ => h) (fun _ _ => h) h
    fun c hd => run_boundedB _ cfg.limits hact st.bufs [c]
      (fun x hx => by rw [List.mem_singleton.mp hx]; have := hd hsec; omega) h

theorem runRaw_boundedB (cfg : RawCfg) (hact : limitActive cfg.limits) (hsec : cfg.secure = false)
    (st : RawSt) (fs : List Frame) (hlen : ∀ f ∈ fs, f.raw.length ≤ cfg.rcvBuf)
    (h : BoundedB (cfg.rcvBuf - 24) cfg.limits.maxChunkCount st.bufs) :
    BoundedB (cfg.rcvBuf - 24) cfg.limits.maxChunkCount (runRawFinal cfg st fs).bufs := by
  induction fs generalizing st with
  | nil => exact h
  | cons f t ih =>
    unfold runRawFinal
    split
    · exact h
    · exact h
    · exact ih _ (fun x hx => hlen x (List.mem_cons_of_mem _ hx))
        (rawStep_boundedB cfg hact hsec st f (hlen f (List.mem_cons_self ..)) h)

end Opcua.Recv.Raw
