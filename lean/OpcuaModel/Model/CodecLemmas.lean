import OpcuaModel.Model.CodecWt
/-
  Basic lemmas about the decoder monad and the Buffer primitives, used by the
  round-trip proofs (C01, C03).

  `Reads d bs x`: on any input that starts with `bs` the decoder `d` consumes
  exactly `bs`, returns `x`, and leaves the allocation counter alone.
-/
namespace Opcua.Codec
open Opcua

@[simp] theorem Dec.pure_apply {α : Type} (a : α) (s : St) : (pure a : Dec α) s = .ok a s := rfl

@[simp] theorem Dec.bind_apply {α β : Type} (x : Dec α) (f : α → Dec β) (s : St) :
    (x >>= f) s = match x s with
      | .ok a s' => f a s'
      | .fail e => .fail e := rfl

@[simp] theorem Dec.fail_apply {α : Type} (f : Fail) (s : St) : (Dec.fail f : Dec α) s = .fail f := rfl

def Reads {α : Type} (d : Dec α) (bs : Bytes) (x : α) : Prop :=
  ∀ rest a, d ⟨bs ++ rest, a⟩ = .ok x ⟨rest, a⟩

theorem Reads.ret {α : Type} (x : α) : Reads (pure x : Dec α) [] x := by
  intro rest a; rfl

theorem Reads.const {α : Type} {d : Dec α} {x : α} (h : ∀ s, d s = .ok x s) : Reads d [] x :=
  fun _ _ => h _

theorem Reads.step {α β : Type} {d : Dec α} {bs : Bytes} {x : α} (h : Reads d bs x) (f : α → Dec β) (rest : Bytes) (a : Nat) :
    (d >>= f) ⟨bs ++ rest, a⟩ = f x ⟨rest, a⟩ := by
  simp only [Dec.bind_apply, h rest a]

theorem Reads.bind {α β : Type} {d : Dec α} {f : α → Dec β} {bs cs : Bytes} {x : α} {y : β}
    (h1 : Reads d bs x) (h2 : Reads (f x) cs y) : Reads (d >>= f) (bs ++ cs) y := by
  intro rest a
  rw [List.append_assoc, h1.step, h2 rest a]

theorem Reads.map {α β : Type} {d : Dec α} {bs : Bytes} {x : α} (g : α → β)
    (h1 : Reads d bs x) : Reads (d >>= fun a => pure (g a)) bs (g x) := by
  have := Reads.bind (f := fun a => pure (g a)) h1 (Reads.ret (g x))
  simpa using this

theorem Reads.whole {α : Type} {d : Dec α} {bs : Bytes} {x : α} (h : Reads d bs x) (a : Nat) :
    d ⟨bs, a⟩ = .ok x ⟨[], a⟩ := by
  simpa using h [] a

theorem Reads.congr {α : Type} {d : Dec α} {bs cs : Bytes} {x y : α}
    (h : Reads d bs x) (hb : bs = cs) (hx : x = y) : Reads d cs y := by
  subst hb; subst hx; exact h

theorem reads_readN (xs : Bytes) : Reads (readN xs.length) xs xs := by
  intro rest a
  simp [readN]

theorem reads_readN' {n : Nat} (xs : Bytes) (h : xs.length = n) : Reads (readN n) xs xs := by
  subst h; exact reads_readN xs

theorem reads_readUInt (w v : Nat) (h : v < 256 ^ w) : Reads (readUInt w) (leBytes w v) v := by
  have h1 : Reads (readN w) (leBytes w v) (leBytes w v) := reads_readN' _ (leBytes_length w v)
  have h2 := h1.map leVal
  rw [leVal_leBytes, Nat.mod_eq_of_lt h] at h2
  exact h2

theorem request_none {env : Env} (h : env.limit = none) (n : Nat) (s : St) : request env n s = .ok () s := by
  simp [request, h]

theorem reads_request {env : Env} (h : env.limit = none) (n : Nat) : Reads (request env n) [] () :=
  .const (request_none h n)

theorem requestAt_none {env : Env} (h : env.limit = none) (site : Site) (n : Nat) (s : St) :
    requestAt env site n s = .ok () s := by
  unfold requestAt
  apply request_none
  unfold Env.forSite
  split <;> simp [h]

theorem reads_requestAt {env : Env} (h : env.limit = none) (site : Site) (n : Nat) : Reads (requestAt env site n) [] () :=
  .const (requestAt_none h site n)

theorem toInt32_small {n : Nat} (h : n < 2147483648) : toInt32 n = (n : Int) := by
  simp [toInt32, h]

theorem Val.eq_nil_of_isNil {v : Val} (h : v.isNil = true) : v = .nil := by
  unfold Val.isNil at h
  split at h
  · rfl
  · cases h

def normBytes : Option Bytes → Option Bytes
  | some [] => none
  | b => b

theorem leBytes4_length (n : Nat) : (leBytes 4 n).length = 4 := leBytes_length 4 n

/-- `(y % M).toNat` for `y` within one modulus of 0; keeps the literal modulus out of the arithmetic below -/
theorem toNat_emod_wrap {M y : Int} (h1 : -M ≤ y) (h2 : y < M) :
    ((y % M).toNat : Int) = if 0 ≤ y then y else y + M := by
  rw [Int.toNat_of_nonneg (Int.emod_nonneg _ (by omega))]
  split
  · exact Int.emod_eq_of_lt ‹_› h2
  · rw [← Int.add_emod_right]
    exact Int.emod_eq_of_lt (by omega) (by omega)

theorem toInt64_emod (y : Int) (h2 : -9223372036854775808 ≤ y) (h3 : y < 9223372036854775808) :
    toInt64 (y % 18446744073709551616).toNat = y := by
  have := toNat_emod_wrap (M := 18446744073709551616) (y := y) (by omega) (by omega)
  generalize (y % 18446744073709551616).toNat = n at this ⊢
  unfold toInt64
  split at this <;> split <;> omega

/-- `q` ticks of 100 ns whose nanoseconds fit `int64`: 92233720368547758 = ⌊2^63 / 100⌋ -/
theorem ticksTime_aux (q : Int) (hq : -92233720368547758 ≤ q ∧ q ≤ 92233720368547758) :
    ticksTime ((q + epochTicks) % 18446744073709551616).toNat = some (q * 100) := by
  unfold ticksTime epochTicks
  have := toNat_emod_wrap (M := 18446744073709551616) (y := q + 116444736000000000) (by omega) (by omega)
  rw [if_pos (by omega)] at this
  generalize ((q + 116444736000000000) % 18446744073709551616).toNat = n at this ⊢
  rw [if_neg (by omega), this, Int.add_sub_cancel, toInt64_emod (q * 100) (by omega) (by omega)]

theorem ticksTime_timeTicks (t : Option Int) (h : wtTime t = true) : ticksTime (timeTicks t) = normTime t := by
  cases t with
  | none => rfl
  | some ns =>
    simp only [wtTime, decide_eq_true_eq] at h
    have hq : -92233720368547758 ≤ Int.tdiv ns 100 ∧ Int.tdiv ns 100 ≤ 92233720368547758 := by
      rcases Int.le_total 0 ns with h0 | h0
      · rw [Int.tdiv_eq_ediv_of_nonneg h0]; omega
      · have : Int.tdiv ns 100 = -((-ns) / 100) := by
          have := Int.neg_tdiv (-ns) 100
          rw [Int.neg_neg] at this
          rw [this, Int.tdiv_eq_ediv_of_nonneg (by omega)]
        rw [this]; omega
    simp only [timeTicks, normTime]
    exact ticksTime_aux _ hq

theorem reads_readTime (t : Option Int) (h : wtTime t = true) : Reads readTime (writeTime t) (normTime t) := by
  unfold readTime writeTime
  have hlt : timeTicks t < 256 ^ 8 := by
    cases t with
    | none => simp [timeTicks]
    | some ns =>
      simp only [timeTicks]
      omega
  have h1 := reads_readUInt 8 (timeTicks t) hlt
  have := h1.map ticksTime
  rw [ticksTime_timeTicks t h] at this
  exact this

end Opcua.Codec
