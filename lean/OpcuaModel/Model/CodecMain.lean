import OpcuaModel.Model.CodecRTVariant
/-
  The round-trip theorem of the codec model: for every call depth `fuel`,
  every type and every value that is well typed within that depth, the
  encoder succeeds and the decoder reads exactly the produced bytes back into
  the normal form of the value.
-/
namespace Opcua.Codec
open Opcua

theorem vElemTy_not_slice {tid : Nat} {ty : Ty} (h : vElemTy tid = some ty) :
    (∀ e, ty ≠ .slice e) ∧ ty ≠ .bytes := by
  unfold vElemTy at h
  split at h <;> first | (cases h; exact ⟨fun e => by simp [qualifiedNamePtr], by simp [qualifiedNamePtr]⟩) | simp at h

theorem wt_leaf_shape (env : Env) (fuel : Nat) (tid : Nat) (ty : Ty) (v : Val) (hty : vElemTy tid = some ty)
    (h : wt env fuel ty v = true) : IsLeafVal v := by
  have hns := vElemTy_not_slice hty
  -- the only equations of `wt` whose value is a slice or a bytes value are those of the types `.slice _` and `.bytes`
  fun_induction wt env fuel ty v <;> first | trivial | simp at hns

/-- the theorem behind `C01_roundtrip` and `C03_stable_partial` -/
theorem rt_all (env : Env) (hlim : env.limit = none) (fuel : Nat) :
    RecOk (encode env fuel) (decode env fuel) (wt env fuel) (norm env fuel) := by
  induction fuel using Nat.strongRecOn with | ind fuel ih => ?_
  intro t v h
  -- `fun_induction` serves as the case split along the equations of `wt`, with `h` unfolded (its own hypotheses are
  -- not used: `wt` recurses through `List.all` and `wtFields`).  It wants the depth as a variable, hence the strong
  -- form of the outer induction; `ih` is only applied at the predecessor.  The labels `case1` … `case23` follow the
  -- ORDER of the equations of `wt`: a line added there shifts every label behind it.
  fun_induction wt env fuel t v
  case case1 => simp at h  -- depth 0
  case case2 _ b =>  -- .bool
    have := (reads_readUInt 1 (if b then 1 else 0) (by cases b <;> decide)).rt.map fun n => Val.bool (decide (n > 0))
    cases b <;> exact this
  case case3 _ w n =>  -- .int w
    simp only [decide_eq_true_eq] at h
    simpa [encode, decode, norm] using (reads_readUInt w n h).rt.map Val.int
  case case4 _ n =>  -- .f32
    simp only [decide_eq_true_eq] at h
    simpa [encode, decode, norm, h.2] using (reads_readUInt 4 n (by simpa using h.1)).rt.map fun x => Val.f32 (canon32 x)
  case case5 _ n =>  -- .f64
    simp only [decide_eq_true_eq] at h
    simpa [encode, decode, norm, h.2] using (reads_readUInt 8 n (by simpa using h.1)).rt.map fun x => Val.f64 (canon64 x)
  case case6 _ s => simpa [encode, decode, norm] using (rt_readString s h).map Val.str  -- .string
  case case7 _ t => simpa [encode, decode, norm] using (reads_readTime t h).rt.map Val.time  -- .time
  case case8 => exact rt_decByteSlice none nofun  -- .bytes, nil
  case case9 _ d => exact rt_decByteSlice (some d) fun _ hd => by cases hd; exact h  -- .bytes
  case case10 _ e xs =>  -- .slice e, nil
    cases List.isEmpty_iff.mp h
    exact rt_decSlice_nil env _
  case case11 _ e xs =>  -- .slice e
    simp only [Bool.and_eq_true, decide_eq_true_eq, List.all_eq_true] at h
    exact rt_decSlice env hlim xs h.1 fun x hx => ih _ (Nat.lt_succ_self _) e x (h.2 x hx)
  case case12 _ e x _ => simpa [encode, decode, norm] using (ih _ (Nat.lt_succ_self _) e x h).map Val.ptr  -- .ptr e
  case case13 _ ts vs => simpa [encode, decode, norm] using (rt_decFields (ih _ (Nat.lt_succ_self _)) ts vs h).map Val.struct  -- .struct ts
  case case14 _ g => simpa [encode, decode, norm] using (reads_decGuid g h).rt.map Val.guid  -- .guid
  case case15 _ n => simpa [encode, decode, norm] using (rt_decNodeId n h).map Val.nodeId  -- .nodeId
  case case16 _ e => simpa [encode, decode, norm] using (rt_decExpNodeId e h).map Val.expNodeId  -- .expNodeId
  case case17 _ l => simpa [encode, decode, norm] using (rt_decLocText l h).map Val.locText  -- .locText
  case case18 _ ls => simpa [encode, decode, norm] using (rt_decDiag _ ls h).map Val.diag  -- .diag
  case case19 _ mask value status srcTs srcPs srvTs srvPs _ =>  -- .dataValue
    simp only [Bool.and_eq_true, decide_eq_true_eq] at h
    obtain ⟨⟨⟨⟨hr, ht1⟩, ht2⟩, hz⟩, hv⟩ := h
    have := rt_decDataValue (normV := norm env _ .variant)
      mask value status srcTs srcPs srvTs srvPs hr ht1 ht2 hz (fun hc => ih _ (Nat.lt_succ_self _) .variant value (by simpa [hc] using hv))
    simpa [encode, decode, norm] using this
  case case20 _ mask alen dlen dims vt value =>  -- .variant
    simpa [encode, decode, norm] using rt_decVariant (ih _ (Nat.lt_succ_self _)) (wt_leaf_shape env _) env hlim mask alen dlen dims vt value h
  case case21 _ mask typeId vname value =>  -- .extObj
    simpa [encode, decode, norm] using rt_decExtObj env _ (ih _ (Nat.lt_succ_self _)) mask typeId vname value h
  case case22 => exact rt_decExtObj_nil env _  -- .extObj, nil pointer
  case case23 => cases h  -- no other pair of type and value is well typed

end Opcua.Codec
