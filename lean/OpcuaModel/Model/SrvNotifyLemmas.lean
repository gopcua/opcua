import OpcuaModel.Model.SrvNotify
/-
  Lemmas about Model/SrvNotify for Props/C29: once the dispatcher is blocked in the send and the subscription
  goroutine is not receiving (`stuck`), no event changes that and no request is answered.
-/
namespace Opcua.Notify
open Opcua.Gen.SrvRobust

/-- the dispatcher is blocked in the send and nobody will ever receive -/
def stuck (s : NState) : Bool := s.blocked && s.consumer != .running

theorem stuck_step (s : NState) (e : Ev) (h : stuck s = true) : stuck (stepN s e).1 = true := by
  obtain ⟨q, c, r, b⟩ := s
  simp only [stuck, Bool.and_eq_true, bne_iff_ne, ne_eq] at h
  obtain ⟨rfl, hc⟩ := h
  cases c
  · exact absurd rfl hc
  · cases e <;> rfl
  · cases e <;> rfl

theorem stuck_unanswered (s : NState) (h : stuck s = true) :
    (stepN s .write).2 = false ∧ (stepN s .request).2 = false := by
  unfold stuck at h
  rw [Bool.and_eq_true] at h
  simp [stepN, h.1]

theorem stuck_run (s : NState) (l : List Ev) (h : stuck s = true) : stuck (runN s l).1 = true := by
  induction l generalizing s with
  | nil => exact h
  | cons e rest ih =>
    unfold runN
    exact ih (stepN s e).1 (stuck_step s e h)

theorem runN_append (s : NState) (l1 l2 : List Ev) :
    runN s (l1 ++ l2) = ((runN (runN s l1).1 l2).1, (runN s l1).2 ++ (runN (runN s l1).1 l2).2) := by
  induction l1 generalizing s with
  | nil => simp [runN]
  | cons e rest ih => simp [runN, ih]

theorem stepN_write (s : NState) (hb : s.blocked = false) (hr : s.registered = true) :
    stepN s .write = if s.queued < notifyChanCap then ({ s with queued := s.queued + 1 }, true)
      else ({ s with blocked := true }, false) := by
  have hf : (notifySendUnderLock && setAttributeNotifiesInline) = true := by decide
  simp [stepN, hb, hr, hf]

end Opcua.Notify

