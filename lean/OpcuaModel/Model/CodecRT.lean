import OpcuaModel.Model.CodecLemmas
/-
  Round-trip lemmas for the reflective walk and the hand-written codecs without
  a shape of their own (GUID, NodeID, ExpandedNodeID, LocalizedText, DiagnosticInfo,
  DataValue).

  `RTv enc dec nv`: the encoder result `enc` is some byte string `bs`, and the
  decoder `dec` reads exactly `bs` back into `nv` (whatever follows).  There is no
  encoder for integers: the model writes an integer as `leBytes w n` inside the byte
  string its encoder returns, and `reads_readUInt` reads it back.

  A hand-written codec is handled by a chain that follows its decoder line by line,
  `.start (.bind r₁ (.app h₂ fun b => … (.ret he)))`: `RTp pre enc dec y` holds the bytes
  read so far in `pre`; `.bind` is a step that reads bytes the encoder writes itself,
  `.app` a step for which the encoder calls another encoder, and `he` says that the
  encoder wrote exactly `pre`.
-/
namespace Opcua.Codec
open Opcua

def RTv {α : Type} (enc : Enc) (dec : Dec α) (nv : α) : Prop :=
  ∃ bs, enc = .ok bs ∧ Reads dec bs nv

theorem Reads.rt {α : Type} {d : Dec α} {bs : Bytes} {x : α} (h : Reads d bs x) : RTv (.ok bs) d x := ⟨bs, rfl, h⟩

theorem RTv.reads {α : Type} {enc : Enc} {dec : Dec α} {x : α} {bs : Bytes} (h : RTv enc dec x) (he : enc = .ok bs) :
    Reads dec bs x := by
  obtain ⟨cs, hc, r⟩ := h
  cases hc.symm.trans he
  exact r

theorem RTv.map {α β : Type} {enc : Enc} {dec : Dec α} {x : α} (g : α → β) (h : RTv enc dec x) :
    RTv enc (dec >>= fun a => pure (g a)) (g x) :=
  let ⟨bs, hb, r⟩ := h; ⟨bs, hb, r.map g⟩

def RTp {α : Type} (pre : Bytes) (enc : Enc) (dec : Dec α) (y : α) : Prop :=
  ∃ cs, enc = .ok (pre ++ cs) ∧ Reads dec cs y

theorem RTv.start {α : Type} {enc : Enc} {dec : Dec α} {y : α} (h : RTp [] enc dec y) : RTv enc dec y := h

theorem RTp.bind {α β : Type} {pre bs : Bytes} {enc : Enc} {d : Dec α} {f : α → Dec β} {x : α} {y : β}
    (h1 : Reads d bs x) (h2 : RTp (pre ++ bs) enc (f x) y) : RTp pre enc (d >>= f) y :=
  let ⟨cs, he, r⟩ := h2; ⟨bs ++ cs, by rw [he, List.append_assoc], h1.bind r⟩

theorem RTp.app {α β : Type} {pre : Bytes} {e : Enc} {k : Bytes → Enc} {d : Dec α} {f : α → Dec β} {x : α} {y : β}
    (h1 : RTv e d x) (h2 : ∀ bs, RTp (pre ++ bs) (k bs) (f x) y) : RTp pre (e >>= k) (d >>= f) y :=
  let ⟨bs, he, r⟩ := h1; .bind r (by rw [he]; exact h2 bs)

theorem RTp.rest {α : Type} {pre cs : Bytes} {enc : Enc} {dec : Dec α} {y : α} (r : Reads dec cs y)
    (he : enc = .ok (pre ++ cs)) : RTp pre enc dec y := ⟨cs, he, r⟩

theorem RTp.ret {α : Type} {pre : Bytes} {enc : Enc} {y : α} (he : enc = .ok pre) : RTp pre enc (pure y) y :=
  ⟨[], by rw [he, List.append_nil], Reads.ret y⟩

theorem RTv.seq {α β : Type} {e1 e2 : Enc} {d : Dec α} {f : α → Dec β} {x : α} {y : β}
    (h1 : RTv e1 d x) (h2 : RTv e2 (f x) y) :
    RTv (do let a ← e1; let b ← e2; pure (a ++ b)) (d >>= f) y := by
  obtain ⟨b, hb, rb⟩ := h2
  exact .start (.app h1 fun a => .rest rb (by rw [hb]; rfl))

@[simp] theorem Enc.bind_ok (a : Bytes) (f : Bytes → Enc) : ((Except.ok a : Enc) >>= f) = f a := rfl
@[simp] theorem Enc.pure_eq (a : Bytes) : (pure a : Enc) = .ok a := rfl

def RecOk (encT : Ty → Val → Enc) (decT : Ty → Dec Val) (wtT : Ty → Val → Bool) (normT : Ty → Val → Val) : Prop :=
  ∀ t v, wtT t v = true → RTv (encT t v) (decT t) (normT t v)

/-- `Buffer.ReadBytes` reads a nil and an empty byte string alike as nil -/
theorem rt_readBytes (b : Option Bytes) (h : ∀ d, b = some d → wtStr d = true) :
    RTv (writeByteString b) readBytes (normBytes b) := by
  unfold readBytes
  match b with
  | none => exact .start (.bind (reads_readUInt 4 null32 (by decide)) (.ret rfl))
  | some [] => exact .start (.bind (reads_readUInt 4 0 (by decide)) (.ret rfl))
  | some (x :: xs) =>
    have hl : (x :: xs).length ≤ maxInt32 := by simpa [wtStr] using h _ rfl
    have h1 : ¬ (x :: xs).length > maxInt32 := by omega
    have h0 : ¬ ((x :: xs).length = 0 ∨ (x :: xs).length = null32) := by
      simp only [maxInt32, null32, List.length_cons] at hl ⊢; omega
    unfold maxInt32 at hl
    refine .start (.bind (reads_readUInt 4 (x :: xs).length (by omega)) ?_)
    rw [if_neg h0]
    exact .bind (reads_readN _) (.ret (by simp only [writeByteString, h1, if_false, List.nil_append]))

theorem rt_readString (s : Bytes) (hs : wtStr s = true) : RTv (writeString s) readString s := by
  cases s with
  | nil => exact (rt_readBytes none nofun).map (·.getD [])
  | cons x xs => exact (rt_readBytes (some (x :: xs)) fun _ hd => by cases hd; exact hs).map (·.getD [])

theorem rt_decElems {encE : Val → Enc} {decE : Dec Val} {normE : Val → Val} :
    ∀ xs : List Val, (∀ x ∈ xs, RTv (encE x) decE (normE x)) →
      RTv (encElems encE xs) (decElems decE xs.length) (xs.map normE)
  | [], _ => (Reads.ret _).rt
  | x :: xs, h => .seq (h x (List.mem_cons_self ..))
      (.map (normE x :: ·) (rt_decElems xs fun y hy => h y (List.mem_cons_of_mem _ hy)))

theorem rt_decSlice_nil {encE : Val → Enc} (env : Env) (decE : Dec Val) :
    RTv (encSlice encE true []) (decSlice env decE) (.slice true []) :=
  .start (.bind (reads_readUInt 4 null32 (by decide)) (.ret rfl))

theorem rt_decSlice {encE : Val → Enc} {decE : Dec Val} {normE : Val → Val} (env : Env) (hlim : env.limit = none)
    (xs : List Val) (hl : xs.length ≤ maxInt32) (hx : ∀ x ∈ xs, RTv (encE x) decE (normE x)) :
    RTv (encSlice encE false xs) (decSlice env decE) (.slice false (xs.map normE)) := by
  have h1 : ¬ xs.length > maxInt32 := by omega
  unfold maxInt32 at hl
  simp only [encSlice, Bool.false_eq_true, if_false, h1]
  unfold decSlice
  refine .start (.bind (reads_readUInt 4 xs.length (by omega)) ?_)
  rw [if_neg (by unfold null32; omega), if_neg h1]
  exact .bind (reads_requestAt hlim _ xs.length) (.app (rt_decElems xs hx) fun _ => .ret rfl)

/-- the `[]byte` fast path: unlike `Buffer.ReadBytes` it keeps an empty slice apart from nil -/
theorem rt_decByteSlice (b : Option Bytes) (h : ∀ d, b = some d → wtStr d = true) :
    RTv (writeByteString b) decByteSlice (.bytes b) := by
  unfold decByteSlice
  cases b with
  | none => exact .start (.bind (reads_readUInt 4 null32 (by decide)) (.ret rfl))
  | some d =>
    have hl : d.length ≤ maxInt32 := by simpa [wtStr] using h d rfl
    have h1 : ¬ d.length > maxInt32 := by omega
    unfold maxInt32 at hl
    refine .start (.bind (reads_readUInt 4 d.length (by omega)) ?_)
    rw [if_neg (by unfold null32; omega), if_neg h1]
    exact .bind (reads_readN d) (.ret (by simp [writeByteString, h1]))

theorem rt_decFields {encT : Ty → Val → Enc} {decT : Ty → Dec Val} {normT : Ty → Val → Val} {wtT : Ty → Val → Bool}
    (hrec : RecOk encT decT wtT normT) :
    ∀ ts vs, wtFields wtT ts vs = true → RTv (encFields encT ts vs) (decFields decT ts) (normFields normT ts vs)
  | [], [], _ => (Reads.ret _).rt
  | t :: ts, v :: vs, h => by
    simp only [wtFields, Bool.and_eq_true] at h
    exact .seq (hrec t v h.1) (.map (normT t v :: ·) (rt_decFields hrec ts vs h.2))
  | [], _ :: _, h | _ :: _, [], h => by simp [wtFields] at h

theorem reads_decGuid (g : Guid) (h : wtGuid g = true) : Reads decGuid (encGuid g) g := by
  simp only [wtGuid, decide_eq_true_eq] at h
  obtain ⟨h1, h2, h3, h4⟩ := h
  unfold decGuid encGuid
  refine Reads.congr (Reads.bind (reads_readUInt 4 g.d1 (by simpa using h1)) (Reads.bind (reads_readUInt 2 g.d2 (by simpa using h2))
    (Reads.bind (reads_readUInt 2 g.d3 (by simpa using h3)) (Reads.bind (reads_readN' g.d4 h4) (Reads.ret _))))) (by simp) rfl

theorem normNodeId_eq (n : NodeId) : normNodeId n = { n with bid := normBytes n.bid } := by
  obtain ⟨_, _, _, _ | _ | _, _⟩ := n <;> rfl

theorem normNodeId_mask (n : NodeId) : (normNodeId n).mask = n.mask := by rw [normNodeId_eq]

theorem rt_decNodeId (n : NodeId) (h : wtNodeId n = true) : RTv (encNodeId n) decNodeId (normNodeId n) := by
  obtain ⟨mask, ns, nid, bid, gid⟩ := n
  simp only [wtNodeId, Bool.and_eq_true, decide_eq_true_eq] at h
  obtain ⟨hm, h⟩ := h
  -- the encoding mask first; its type nibble selects the same branch of `wtNodeId`, `encNodeId` and `decNodeId`
  unfold encNodeId decNodeId
  refine .start (.bind (reads_readUInt 1 mask (by omega)) ?_)
  by_cases t0 : mask % 16 = 0
  · simp only [t0, if_true, decide_eq_true_eq] at h ⊢
    obtain ⟨rfl, h2, rfl, rfl⟩ := h
    exact .bind (reads_readUInt 1 nid (by omega)) (.ret rfl)
  by_cases t1 : mask % 16 = 1
  · simp only [t1, if_true, decide_eq_true_eq, Nat.reduceEqDiff, if_false] at h ⊢
    obtain ⟨h1, h2, rfl, rfl⟩ := h
    exact .bind (reads_readUInt 1 ns (by omega)) (.bind (reads_readUInt 2 nid (by omega)) (.ret rfl))
  by_cases t2 : mask % 16 = 2
  · simp only [t2, if_true, decide_eq_true_eq, Nat.reduceEqDiff, if_false] at h ⊢
    obtain ⟨h1, h2, rfl, rfl⟩ := h
    exact .bind (reads_readUInt 2 ns (by omega)) (.bind (reads_readUInt 4 nid (by omega)) (.ret rfl))
  by_cases t4 : mask % 16 = 4
  · simp only [t4, if_true, Nat.reduceEqDiff, if_false, Bool.and_eq_true, decide_eq_true_eq] at h ⊢
    obtain ⟨⟨h1, rfl, rfl⟩, hg⟩ := h
    cases gid with
    | none => simp at hg
    | some g => exact .bind (reads_readUInt 2 ns (by omega)) (.bind (reads_decGuid g hg) (.ret rfl))
  by_cases t35 : mask % 16 = 3 ∨ mask % 16 = 5
  · simp only [t0, t1, t2, t4, t35, if_true, if_false, Bool.and_eq_true, decide_eq_true_eq] at h ⊢
    obtain ⟨⟨h1, rfl, rfl⟩, hb⟩ := h
    rw [normNodeId_eq]
    exact .bind (reads_readUInt 2 ns (by omega)) (.app (rt_readBytes bid fun d hd => by simpa [hd] using hb) fun _ => .ret rfl)
  · simp [t0, t1, t2, t4, t35] at h

theorem Reads.opt {α : Type} {c : Bool} {d : Dec α} {bs : Bytes} {x dflt : α} (h : Reads d bs x)
    (hz : c = true ∨ x = dflt) : Reads (optDec c d dflt) (optBytes c bs) x := by
  unfold optDec optBytes
  cases c with
  | true => exact h
  | false => exact Reads.congr (Reads.ret dflt) rfl (by simpa [eq_comm] using hz)

theorem RTv.opt {α : Type} {c : Bool} {enc : Enc} {dec : Dec α} {x dflt : α} (h : c = true → RTv enc dec x)
    (hz : c = true ∨ x = dflt) : RTv (optEnc c enc) (optDec c dec dflt) x := by
  unfold optDec optEnc
  cases c with
  | true => exact h rfl
  | false => exact ⟨[], rfl, Reads.congr (Reads.ret dflt) rfl (by simpa [eq_comm] using hz)⟩

theorem rt_optString (c : Bool) (s : Bytes) (hs : wtStr s = true) (hz : c = true ∨ s = []) :
    RTv (optEnc c (writeString s)) (optDec c readString []) s :=
  .opt (fun _ => rt_readString s hs) hz

theorem reads_optTime (c : Bool) (t : Option Int) (ht : wtTime t = true) (hz : c = true ∨ t = none) :
    Reads (optDec c readTime none) (optBytes c (writeTime t)) (normTime t) :=
  .opt (reads_readTime t ht) (hz.imp_right fun h => by rw [h]; rfl)

theorem rt_decExpNodeId (e : ExpNodeId) (h : wtExp e = true) : RTv (encExpNodeId e) decExpNodeId (normExp e) := by
  obtain ⟨nodeId, uri, idx⟩ := e
  simp only [wtExp, Bool.and_eq_true, decide_eq_true_eq] at h
  obtain ⟨⟨hu, hi⟩, h⟩ := h
  unfold decExpNodeId
  cases nodeId with
  | none =>
    -- a nil NodeID is written as the two-byte id 0
    simp only [decide_eq_true_eq] at h
    obtain ⟨rfl, rfl⟩ := h
    exact .start (.bind ((rt_decNodeId twoByteZero (by decide)).reads (bs := leBytes 2 0) rfl) (.ret rfl))
  | some n =>
    simp only [Bool.and_eq_true, decide_eq_true_eq] at h
    obtain ⟨hn, hfu, hfi⟩ := h
    refine .start (.app (rt_decNodeId n hn) fun _ => ?_)
    simp only [normNodeId_mask]
    exact .app (rt_optString _ uri hu (hfu.imp_left decide_eq_true)) fun _ =>
      .bind (Reads.opt (reads_readUInt 4 idx (by simpa using hi)) (hfi.imp_left decide_eq_true)) (.ret rfl)

theorem rt_decLocText (l : LocText) (h : wtLoc l = true) : RTv (encLocText l) decLocText l := by
  obtain ⟨mask, locale, text⟩ := l
  simp only [wtLoc, Bool.and_eq_true, decide_eq_true_eq] at h
  obtain ⟨⟨⟨hm, hl⟩, ht⟩, hz1, hz2⟩ := h
  exact .start (.bind (reads_readUInt 1 mask (by omega)) (.app (rt_optString (has mask 1) locale hl hz1) fun _ =>
    .app (rt_optString (has mask 2) text ht hz2) fun _ => .ret rfl))

theorem rt_decDiagLevel (l : DiagLevel) (h : wtDiagLevel l = true) : RTv (encDiagLevel l) decDiagLevel l := by
  obtain ⟨mask, sym, ns, loc, lt, info, status⟩ := l
  simp only [wtDiagLevel, Bool.and_eq_true, decide_eq_true_eq] at h
  obtain ⟨⟨⟨hm, h1, h2, h3, h4, h5⟩, hi⟩, z1, z2, z3, z4, z5, z6⟩ := h
  exact .start
    (.bind (reads_readUInt 1 mask (by omega))
    (.bind (Reads.opt (reads_readUInt 4 sym (by omega)) z1)
    (.bind (Reads.opt (reads_readUInt 4 ns (by omega)) z2)
    (.bind (Reads.opt (reads_readUInt 4 loc (by omega)) z3)
    (.bind (Reads.opt (reads_readUInt 4 lt (by omega)) z4)
    (.app (rt_optString (has mask 0x10) info hi z5) fun _ =>
    .bind (Reads.opt (reads_readUInt 4 status (by omega)) z6)
    (.ret rfl)))))))

theorem rt_decDiag : ∀ (fuel : Nat) (ls : List DiagLevel), wtDiag fuel ls = true → RTv (encDiag fuel ls) (decDiag fuel) ls
  | 0, _, h | _ + 1, [], h => by simp [wtDiag] at h
  | fuel + 1, [l], h => by
    simp only [wtDiag, Bool.and_eq_true, Bool.not_eq_true'] at h
    refine .start (.app (rt_decDiagLevel l h.1) fun _ => ?_)
    simp only [h.2, Bool.false_eq_true, if_false]
    exact .ret rfl
  | fuel + 1, l :: l' :: ls, h => by
    simp only [wtDiag, Bool.and_eq_true] at h
    simp only [encDiag, decDiag, h.1.2, if_true]
    refine .seq (rt_decDiagLevel l h.1.1) ?_
    simp only [h.1.2, if_true]
    exact .map (l :: ·) (rt_decDiag fuel (l' :: ls) h.2)

/-- the arguments are the fields of `Val.dataValue` and the hypotheses the conjuncts of its line in `wt`, which has no
    predicate of its own for DataValue -/
theorem rt_decDataValue {encV : Val → Enc} {decV : Dec Val} {normV : Val → Val}
    (mask : Nat) (value : Val) (status : Nat) (srcTs : Option Int) (srcPs : Nat) (srvTs : Option Int) (srvPs : Nat)
    (hr : mask < 256 ∧ status < 4294967296 ∧ srcPs < 65536 ∧ srvPs < 65536) (ht1 : wtTime srcTs = true) (ht2 : wtTime srvTs = true)
    (hz : (has mask 0x2 = true ∨ status = 0) ∧ (has mask 0x4 = true ∨ srcTs = none) ∧ (has mask 0x10 = true ∨ srcPs = 0)
        ∧ (has mask 0x8 = true ∨ srvTs = none) ∧ (has mask 0x20 = true ∨ srvPs = 0))
    (hv : has mask 0x1 = true → RTv (encV value) decV (normV value)) :
    RTv (encDataValue encV mask value status srcTs srcPs srvTs srvPs) (decDataValue decV)
      (.dataValue mask (if has mask 0x1 then normV value else zeroVariant) status (normTime srcTs) srcPs (normTime srvTs) srvPs) := by
  obtain ⟨hm, hs, hp1, hp2⟩ := hr
  obtain ⟨z1, z2, z3, z4, z5⟩ := hz
  have rv : RTv (optEnc (has mask 0x1) (encV value)) (optDec (has mask 0x1) decV zeroVariant)
      (if has mask 0x1 then normV value else zeroVariant) :=
    .opt (fun hc => by simpa [hc] using hv hc) (by cases has mask 0x1 <;> simp)
  exact .start
    (.bind (reads_readUInt 1 mask (by omega))
    (.app rv fun _ =>
    .bind (Reads.opt (reads_readUInt 4 status (by omega)) z1)
    (.bind (reads_optTime (has mask 0x4) srcTs ht1 z2)
    (.bind (Reads.opt (reads_readUInt 2 srcPs (by omega)) z3)
    (.bind (reads_optTime (has mask 0x8) srvTs ht2 z4)
    (.bind (Reads.opt (reads_readUInt 2 srvPs (by omega)) z5)
    (.ret rfl)))))))

end Opcua.Codec
