import OpcuaModel.Base.Bytes
/-
  CBC mode (NIST SP 800-38A §6.2) over byte lists for an arbitrary 16-byte block
  cipher `E` / `D`, written so that it is both executable on long inputs (the
  block loop is tail recursive, blocks are accumulated in reverse) and easy to
  reason about.  Proved here, from the block-cipher contract `BlockInv` alone:

    `dec_enc`      cbcDec D iv (cbcEnc E iv p) = p      for whole-block `p`
    `enc_length`   |cbcEnc E iv p| = |p|                for whole-block `p`

  The drivers of C07 / C08 / C14 run THIS definition with the reference AES block
  functions of `Model/CryptoRef.lean`, so the chunk theorems assume nothing about the
  mode of operation: the block inverse is their only assumption on AES.
-/
namespace Opcua.Cbc
open Opcua

def xorBytes (a b : Bytes) : Bytes := List.zipWith (· ^^^ ·) a b

/-- `C_j = E(P_j xor C_{j-1})`; `acc` holds the cipher blocks produced so far, last first -/
def encLoop (E : Bytes → Bytes) : Nat → Bytes → Bytes → List Bytes → List Bytes
  | 0, _, _, acc => acc
  | n + 1, prev, p, acc =>
    let c := E (xorBytes (p.take 16) prev)
    encLoop E n c (p.drop 16) (c :: acc)

/-- `P_j = D(C_j) xor C_{j-1}` -/
def decLoop (D : Bytes → Bytes) : Nat → Bytes → Bytes → List Bytes → List Bytes
  | 0, _, _, acc => acc
  | n + 1, prev, c, acc =>
    decLoop D n (c.take 16) (c.drop 16) (xorBytes (D (c.take 16)) prev :: acc)

def cbcEnc (E : Bytes → Bytes) (iv p : Bytes) : Bytes := (encLoop E (p.length / 16) iv p []).reverse.flatten
def cbcDec (D : Bytes → Bytes) (iv c : Bytes) : Bytes := (decLoop D (c.length / 16) iv c []).reverse.flatten

/-- the block-cipher contract: on 16-byte blocks `E` keeps the length and `D` inverts it -/
def BlockInv (E D : Bytes → Bytes) : Prop := ∀ b : Bytes, b.length = 16 → (E b).length = 16 ∧ D (E b) = b

/-! ### reference form (not tail recursive) and its equivalence -/

def encRef (E : Bytes → Bytes) : Nat → Bytes → Bytes → Bytes
  | 0, _, _ => []
  | n + 1, prev, p => E (xorBytes (p.take 16) prev) ++ encRef E n (E (xorBytes (p.take 16) prev)) (p.drop 16)

def decRef (D : Bytes → Bytes) : Nat → Bytes → Bytes → Bytes
  | 0, _, _ => []
  | n + 1, prev, c => xorBytes (D (c.take 16)) prev ++ decRef D n (c.take 16) (c.drop 16)

theorem encLoop_eq (E : Bytes → Bytes) (n : Nat) (prev p : Bytes) (acc : List Bytes) :
    (encLoop E n prev p acc).reverse.flatten = acc.reverse.flatten ++ encRef E n prev p := by
  induction n generalizing prev p acc with
  | zero => simp [encLoop, encRef]
  | succ n ih => simp [encLoop, encRef, ih, List.flatten_append]

theorem decLoop_eq (D : Bytes → Bytes) (n : Nat) (prev c : Bytes) (acc : List Bytes) :
    (decLoop D n prev c acc).reverse.flatten = acc.reverse.flatten ++ decRef D n prev c := by
  induction n generalizing prev c acc with
  | zero => simp [decLoop, decRef]
  | succ n ih => simp [decLoop, decRef, ih, List.flatten_append]

theorem cbcEnc_eq (E : Bytes → Bytes) (iv p : Bytes) : cbcEnc E iv p = encRef E (p.length / 16) iv p := by
  simp [cbcEnc, encLoop_eq]

theorem cbcDec_eq (D : Bytes → Bytes) (iv c : Bytes) : cbcDec D iv c = decRef D (c.length / 16) iv c := by
  simp [cbcDec, decLoop_eq]

theorem xor_cancel (a b : Bytes) (h : a.length = b.length) : xorBytes (xorBytes a b) b = a := by
  induction a generalizing b with
  | nil => simp [xorBytes]
  | cons x a ih =>
    match b, h with
    | y :: b, h =>
      simp only [xorBytes, List.zipWith_cons_cons, List.cons.injEq]
      refine ⟨by rw [UInt8.xor_assoc, UInt8.xor_self, UInt8.xor_zero], ?_⟩
      exact ih b (by simpa using h)

theorem xor_length (a b : Bytes) : (xorBytes a b).length = min a.length b.length := by
  simp [xorBytes]

/-- block by block: the cipher text of whole blocks is as long as the plain text and decrypts to it -/
theorem encRef_spec {E D : Bytes → Bytes} (h : BlockInv E D) {prev p : Bytes}
    (hprev : prev.length = 16) (hp : p.length % 16 = 0) :
    (encRef E (p.length / 16) prev p).length = p.length ∧
      decRef D (p.length / 16) prev (encRef E (p.length / 16) prev p) = p := by
  obtain ⟨n, hn⟩ : ∃ n, p.length = 16 * n := ⟨p.length / 16, by omega⟩
  rw [show p.length / 16 = n by omega, hn]
  clear hp
  induction n generalizing prev p with
  | zero => exact ⟨rfl, (List.length_eq_zero_iff.mp hn).symm⟩
  | succ n ih =>
    have ht : (p.take 16).length = 16 := by rw [List.length_take]; omega
    have hx : (xorBytes (p.take 16) prev).length = 16 := by rw [xor_length, ht, hprev]; rfl
    obtain ⟨hl, hd⟩ := h _ hx
    obtain ⟨il, id⟩ := ih (p := p.drop 16) hl (by rw [List.length_drop]; omega)
    simp only [encRef, decRef, List.length_append, hl, il]
    rw [List.take_left' hl, List.drop_left' hl, hd, xor_cancel _ _ (ht.trans hprev.symm), id, List.take_append_drop]
    exact ⟨by omega, rfl⟩

theorem enc_length {E D : Bytes → Bytes} (h : BlockInv E D) {iv p : Bytes} (hiv : iv.length = 16)
    (hp : p.length % 16 = 0) : (cbcEnc E iv p).length = p.length := by
  rw [cbcEnc_eq]; exact (encRef_spec h hiv hp).1

theorem dec_enc (E D : Bytes → Bytes) (h : BlockInv E D) (iv p : Bytes) (hiv : iv.length = 16)
    (hp : p.length % 16 = 0) : cbcDec D iv (cbcEnc E iv p) = p := by
  rw [cbcDec_eq, enc_length h hiv hp, cbcEnc_eq]
  exact (encRef_spec h hiv hp).2

end Opcua.Cbc
