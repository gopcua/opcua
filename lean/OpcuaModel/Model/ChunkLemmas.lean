import OpcuaModel.Model.Chunk
import OpcuaModel.Model.SecureLenLemmas
/-
  Lemmas about the byte-level chunk model (`Model/Chunk.lean`):
  little-endian field access, the padding arithmetic, and the round trip of ONE
  chunk through `signAndEncrypt` / `verifyAndDecrypt` for abstract crypto that
  satisfies the contract `Paired`.  A sender seals clear ‖ padding (`Side.seal`, `Side.padding`;
  the specification's sender does the same, `Spec.secureChunk_seal`); what the
  contract gives for the sender is `Paired.seal`, for the receiver
  `verifyAndDecrypt_open`, and every round trip is these two put together.
-/
namespace Opcua.Chunk
open Opcua

/-! ### byte helpers -/

@[simp] theorem u32_length (v : Nat) : (u32 v).length = 4 := by simp [u32]

theorem putU32_length (b : Bytes) (off v : Nat) (h : off + 4 ≤ b.length) :
    (putU32 b off v).length = b.length := by
  simp [putU32, List.length_take, List.length_drop]; omega

theorem putU32_append (b t : Bytes) (off v : Nat) (h : off + 4 ≤ b.length) :
    putU32 (b ++ t) off v = putU32 b off v ++ t := by
  simp only [putU32]
  rw [List.take_append_of_le_length (by omega), List.drop_append_of_le_length (by omega)]
  simp [List.append_assoc]

theorem u32At_field {x : Bytes} {off : Nat} (hx : x.length = off) (v : Nat) (r : Bytes) :
    u32At (x ++ u32 v ++ r) off = v % 4294967296 := by
  rw [u32At, List.append_assoc, List.drop_left' hx, List.take_left' (u32_length v), u32, leVal_leBytes]

theorem putU32_field {x : Bytes} {off : Nat} (hx : x.length = off) (a v : Nat) (r : Bytes) :
    putU32 (x ++ u32 a ++ r) off v = x ++ u32 v ++ r := by
  have h4 : (x ++ u32 a).length = off + 4 := by simp [hx]
  rw [putU32, List.drop_left' h4, List.append_assoc x, List.take_left' hx]

theorem u32At_putU32 (b q : Bytes) (off v : Nat) (h : off + 4 ≤ b.length) :
    u32At (putU32 b off v ++ q) off = v % 4294967296 := by
  rw [putU32, List.append_assoc]
  exact u32At_field (List.length_take_of_le (by omega)) v _

/-! ### padding arithmetic -/

theorem paddingLength_eq (s : Side) (n : Nat) :
    paddingLength s n =
      padTo s.algo.plaintextBlockSize.toNat (n + s.algo.signatureLength.toNat + paddingBytes s) := rfl

theorem paddingLength_lt (s : Side) (n : Nat) (h : 0 < s.algo.plaintextBlockSize.toNat) :
    paddingLength s n < s.algo.plaintextBlockSize.toNat := padTo_lt h _

theorem padTail_length (s : Side) (n : Nat) : (padTail s n).length = paddingLength s n + paddingBytes s := by
  simp only [padTail, paddingBytes]
  split <;> simp

/-- plaintext handed to the cipher: body part, padding, signature -/
def plainLen (s : Side) (n : Nat) : Nat :=
  n + (paddingLength s n + paddingBytes s) + s.algo.signatureLength.toNat

theorem plainLen_aligned (s : Side) (n : Nat) (h : 0 < s.algo.plaintextBlockSize.toNat) :
    plainLen s n % s.algo.plaintextBlockSize.toNat = 0 := by
  rw [← padTo_aligned h (n + s.algo.signatureLength.toNat + paddingBytes s), plainLen, paddingLength_eq]
  congr 1
  omega

/-! ### the crypto contract and the round trip of one chunk -/

/-- the contract between a sending side and the matching receiving side.
    `rsl`: the receiver cuts off `RemoteSignatureLength()` bytes, the sender appended `SignatureLength()`.
    `extra` (ExtraPaddingSize): the sender tests `RemoteSignatureLength() > 256`, the receiver its own
    `SignatureLength() > 256`; both mean the receiver's key, the contract is that the tests agree.
    `pad_fits`: the padding count, below the plaintext block size, is written into the PaddingSize
    byte, or into two bytes with ExtraPaddingSize. -/
structure Paired (S R : Side) : Prop where
  mode : R.mode = S.mode
  pbs_pos : 0 < S.algo.plaintextBlockSize.toNat
  rsl : R.algo.remoteSignatureLength.toNat = S.algo.signatureLength.toNat
  extra : (R.algo.signatureLength > 256) ↔ (S.algo.remoteSignatureLength > 256)
  pad_fits : S.algo.plaintextBlockSize.toNat ≤ (if S.algo.remoteSignatureLength > 256 then 65536 else 256)
  sign_ok : ∀ m, ∃ sg, S.crypto.sign m = some sg ∧ sg.length = S.algo.signatureLength.toNat ∧
      R.crypto.verify m sg = true
  enc_ok : ∀ p : Bytes, 0 < p.length → p.length % S.algo.plaintextBlockSize.toNat = 0 →
      ∃ q, S.crypto.enc p = some q ∧
        q.length = p.length / S.algo.plaintextBlockSize.toNat * S.algo.blockSize.toNat ∧
        R.crypto.dec q = some p

theorem Paired.encrypts {S R : Side} (hp : Paired S R) (asym : Bool) : R.encrypts asym = S.encrypts asym := by
  simp [Side.encrypts, hp.mode]

theorem toNat_ofNat_small (n : Nat) (h : n < 256) : (UInt8.ofNat n).toNat = n := by
  simp [UInt8.toNat_ofNat']; omega

/-- the padding as `signAndEncrypt` and the specification both write it: `ps + 1`
    bytes `byte(ps)`, then the high byte of `ps` if `extra` -/
def countTail (extra : Bool) (ps : Nat) : Bytes :=
  List.replicate (ps + 1) (UInt8.ofNat ps) ++ if extra then [UInt8.ofNat (ps / 256)] else []

theorem countTail_length (extra : Bool) (ps : Nat) :
    (countTail extra ps).length = ps + 1 + if extra then 1 else 0 := by
  cases extra <;> simp [countTail]

theorem countTail_last (X : Bytes) (extra : Bool) (ps : Nat) :
    (X ++ countTail extra ps)[(X ++ countTail extra ps).length - 1]? =
      some (UInt8.ofNat (if extra then ps / 256 else ps)) := by
  cases extra
  · have : (X ++ countTail false ps).length - 1 = X.length + ps := by simp [countTail]
    rw [this, List.getElem?_append_right (by omega)]
    simp [countTail]
  · have : (X ++ countTail true ps).length - 1 = X.length + (ps + 1) := by simp [countTail]
    rw [this, List.getElem?_append_right (by omega)]
    simp [countTail]

theorem countTail_prev (X : Bytes) (ps : Nat) :
    (X ++ countTail true ps)[(X ++ countTail true ps).length - 2]? = some (UInt8.ofNat ps) := by
  have : (X ++ countTail true ps).length - 2 = X.length + ps := by simp [countTail]; omega
  rw [this, List.getElem?_append_right (by omega)]
  simp [countTail, List.getElem?_append_left]

theorem padTail_eq (S : Side) (n : Nat) :
    padTail S n = countTail (decide (S.algo.remoteSignatureLength > 256)) (paddingLength S n) := by
  simp only [padTail, countTail, Nat.shiftRight_eq_div_pow]; split <;> simp [*]

/-- the padding a sender appends to the clear bytes: the counted tail for the count `ps` when the
    tail is to be encrypted, nothing otherwise.  `signAndEncrypt` takes `ps = paddingLength`, the
    specification's sender `Spec.paddingSize`. -/
def Side.padding (S : Side) (enc : Bool) (ps : Nat) : Bytes :=
  if enc then countTail (decide (S.algo.remoteSignatureLength > 256)) ps else []

theorem Side.padding_length (S : Side) (enc : Bool) (ps : Nat) :
    (S.padding enc ps).length = if enc then ps + paddingBytes S else 0 := by
  cases enc
  · rfl
  · simp only [Side.padding, if_true, countTail_length, paddingBytes, decide_eq_true_eq]; split <;> omega

/-- the minimal count fits its one or two bytes -/
theorem Paired.paddingLength_fits {S R : Side} (hp : Paired S R) (n : Nat) :
    paddingLength S n < if S.algo.remoteSignatureLength > 256 then 65536 else 256 :=
  Nat.lt_of_lt_of_le (paddingLength_lt S n hp.pbs_pos) hp.pad_fits

/-- the receiver reads back the length of the sender's padding, for every count that fits its bytes -/
theorem paddingOf_padding {S R : Side} (hp : Paired S R) (asym : Bool) (X : Bytes) (ps : Nat)
    (hps : S.encrypts asym = true → ps < if S.algo.remoteSignatureLength > 256 then 65536 else 256) :
    paddingOf R asym (X ++ S.padding (S.encrypts asym) ps) = .ok (S.padding (S.encrypts asym) ps).length := by
  by_cases henc : S.encrypts asym = true
  · replace hps := hps henc
    have hl := countTail_length (decide (S.algo.remoteSignatureLength > 256)) ps
    simp only [Side.padding, paddingOf, hp.encrypts, henc, if_true]
    rw [if_neg (by rw [List.length_append, hl]; omega), countTail_last]
    by_cases hx : S.algo.remoteSignatureLength > 256
    · simp only [hx, decide_true, if_true] at hps hl ⊢
      rw [if_pos (hp.extra.mpr hx), if_neg (by rw [List.length_append, hl]; omega), countTail_prev, hl]
      simp only [UInt8.toNat_ofNat', Nat.shiftLeft_eq]
      congr 1; omega
    · simp only [hx, decide_false, Bool.false_eq_true, if_false] at hps hl ⊢
      rw [if_neg (fun h => hx (hp.extra.mp h)), hl, toNat_ofNat_small ps hps]
  · simp [Side.padding, paddingOf, hp.encrypts, henc]

/-- length of what follows the security header in the secured chunk -/
def tailLen (S : Side) (asym : Bool) (n : Nat) : Nat :=
  if S.encrypts asym then plainLen S n / S.algo.plaintextBlockSize.toNat * S.algo.blockSize.toNat
  else n + S.algo.signatureLength.toNat

/-- what both senders do with the tail `P` (clear ‖ padding) of a chunk: write the size of what
    will follow the header (`Hf` is the header as a function of it), sign header ‖ `P`,
    encrypt `P` ‖ signature if `enc` -/
def Side.seal (S : Side) (enc : Bool) (Hf : Nat → Bytes) (P : Bytes) : Option Bytes :=
  let n := if enc
    then (P.length + S.algo.signatureLength.toNat) / S.algo.plaintextBlockSize.toNat * S.algo.blockSize.toNat
    else P.length + S.algo.signatureLength.toNat
  match S.crypto.sign (Hf n ++ P) with
  | none => none
  | some sg =>
    if enc then
      match S.crypto.enc (P ++ sg) with
      | none => none
      | some q => some (Hf n ++ q)
    else some (Hf n ++ (P ++ sg))

/-- `signAndEncrypt` on a chunk split at the header length seals clear ‖ padding -/
theorem signAndEncrypt_nf (S : Side) (asym : Bool) (H X : Bytes) (h8 : 8 ≤ H.length) (hm : S.mode ≠ .none) :
    signAndEncrypt S asym H.length (H ++ X) =
      match S.seal (S.encrypts asym) (fun n => putU32 H 4 (H.length + n))
        (X ++ S.padding (S.encrypts asym) (paddingLength S X.length)) with
      | some w => .ok w
      | none => .err := by
  have hH : ∀ v, (putU32 H 4 v).length = H.length := fun v => putU32_length _ _ _ (by omega)
  have hput : ∀ Y v, putU32 (H ++ Y) 4 v = putU32 H 4 v ++ Y := fun Y v => putU32_append _ _ _ _ (by omega)
  simp only [signAndEncrypt, Side.seal, Side.padding, ← padTail_eq, if_neg hm]
  rw [if_neg (by simp only [List.length_append]; omega)]
  by_cases henc : S.encrypts asym = true
  · simp only [henc, if_true, List.append_assoc, hput, List.length_append, Nat.add_sub_cancel_left, Nat.add_assoc]
    cases S.crypto.sign _ with
    | none => rfl
    | some sg =>
      simp only []
      rw [List.drop_left' (hH _), List.take_left' (hH _)]
      cases S.crypto.enc _ <;> rfl
  · simp only [henc, Bool.false_eq_true, if_false, hput, List.append_nil, List.length_append, Nat.add_sub_cancel_left]
    cases S.crypto.sign _ with
    | none => rfl
    | some sg =>
      simp only [List.append_assoc]
      rw [List.drop_left' (hH _), List.take_left' (hH _)]

/-- The receiver's half of every round trip.  A chunk `H ++ q` whose tail `q` is (the encryption of, when
    the side encrypts) clear ‖ padding ‖ signature, with a padding whose count
    `paddingOf` reads back, is opened to the clear part. -/
theorem verifyAndDecrypt_open {S R : Side} (hp : Paired S R) (asym : Bool) (hm : S.mode ≠ .none)
    (H X T sg q : Bytes) (hsg : sg.length = S.algo.signatureLength.toNat)
    (hver : R.crypto.verify (H ++ (X ++ T)) sg = true)
    (hpad : paddingOf R asym (H ++ X ++ T) = .ok T.length)
    (hq : if S.encrypts asym then R.crypto.dec q = some (X ++ T ++ sg) else q = X ++ T ++ sg) :
    verifyAndDecrypt R asym H.length (H ++ q) = .ok X := by
  have hRm : ¬ (R.mode = .none ∧ (R.policyNone = true ∨ asym = false)) := by
    rw [hp.mode]; exact fun h => hm h.1
  -- after decryption `verifyTail` sees header ‖ clear ‖ padding ‖ signature
  have hvt : verifyTail R asym H.length (H ++ (X ++ T ++ sg)) = .ok X := by
    have hcut : (H ++ X ++ T ++ sg).length - R.algo.remoteSignatureLength.toNat = (H ++ X ++ T).length := by
      rw [hp.rsl, List.length_append, hsg]; omega
    have hX : (H ++ X ++ T).length - T.length = (H ++ X).length := by simp only [List.length_append]; omega
    simp only [← List.append_assoc, verifyTail]
    rw [if_neg (by rw [hp.rsl]; simp only [List.length_append]; omega),
      if_neg (by rw [hp.rsl]; simp only [List.length_append]; omega),
      hcut, List.drop_left' rfl, List.take_left' rfl, List.append_assoc H X T, hver]
    simp only [Bool.true_eq_false, if_false, ← List.append_assoc, hpad]
    rw [if_neg (by simp only [List.length_append]; omega), if_neg (by simp only [List.length_append]; omega),
      hX, List.take_left' rfl, List.drop_left' rfl]
  simp only [verifyAndDecrypt, if_neg hRm, hp.encrypts]
  rw [if_neg (by simp only [List.length_append]; omega)]
  by_cases henc : S.encrypts asym = true
  · rw [if_pos henc] at hq ⊢
    rw [List.drop_left' rfl, List.take_left' rfl, hq]
    exact hvt
  · rw [if_neg henc] at hq ⊢
    rw [hq]
    exact hvt

/-- The sender's half of every round trip: under the contract, sealing a tail `P` that fills whole blocks
    when it is to be encrypted succeeds, and the receiver's primitives undo it. -/
theorem Paired.seal {S R : Side} (hp : Paired S R) (enc : Bool) (Hf : Nat → Bytes) (P : Bytes)
    (hal : enc = true → (P.length + S.algo.signatureLength.toNat) % S.algo.plaintextBlockSize.toNat = 0 ∧ 0 < P.length) :
    ∃ sg q, S.seal enc Hf P = some (Hf q.length ++ q) ∧
      q.length = (if enc
        then (P.length + S.algo.signatureLength.toNat) / S.algo.plaintextBlockSize.toNat * S.algo.blockSize.toNat
        else P.length + S.algo.signatureLength.toNat) ∧
      sg.length = S.algo.signatureLength.toNat ∧ R.crypto.verify (Hf q.length ++ P) sg = true ∧
      (if enc then R.crypto.dec q = some (P ++ sg) else q = P ++ sg) := by
  generalize hn : (if enc then _ else _ : Nat) = n
  obtain ⟨sg, h1, h2, h3⟩ := hp.sign_ok (Hf n ++ P)
  have hl : (P ++ sg).length = P.length + S.algo.signatureLength.toNat := by rw [List.length_append, h2]
  cases enc with
  | false =>
    simp only [Bool.false_eq_true, if_false] at hn
    exact ⟨sg, P ++ sg, by simp [Side.seal, hn, h1, hl], hl.trans hn, h2, by rwa [hl, hn], rfl⟩
  | true =>
    simp only [if_true] at hn
    obtain ⟨q, e1, e2, e3⟩ := hp.enc_ok (P ++ sg) (by have := (hal rfl).2; omega) (by rw [hl]; exact (hal rfl).1)
    rw [hl, hn] at e2
    exact ⟨sg, q, by simp [Side.seal, hn, h1, e1, e2], e2, h2, by rwa [e2], e3⟩

/-- the two halves put together -/
theorem secure_roundtrip {S R : Side} (hp : Paired S R) (asym : Bool) (H X : Bytes) (h8 : 8 ≤ H.length)
    (hm : S.mode ≠ .none) :
    ∃ q, q.length = tailLen S asym X.length ∧
      signAndEncrypt S asym H.length (H ++ X) = .ok (putU32 H 4 (H.length + q.length) ++ q) ∧
      verifyAndDecrypt R asym H.length (putU32 H 4 (H.length + q.length) ++ q) = .ok X := by
  rw [signAndEncrypt_nf S asym H X h8 hm]
  obtain ⟨sg, q, hseal, hq, hsg, hver, hdec⟩ := hp.seal (S.encrypts asym) (fun n => putU32 H 4 (H.length + n))
    (X ++ S.padding (S.encrypts asym) (paddingLength S X.length)) (fun he => by
      have := plainLen_aligned S X.length hp.pbs_pos
      simp only [List.length_append, Side.padding_length, he, if_true, plainLen] at this ⊢
      exact ⟨this, by simp only [paddingBytes]; split <;> omega⟩)
  refine ⟨q, ?_, by rw [hseal], ?_⟩
  · rw [hq, tailLen, List.length_append, Side.padding_length]; split <;> simp [plainLen]
  · have := verifyAndDecrypt_open hp asym hm (putU32 H 4 (H.length + q.length)) X _ sg q hsg
      hver (paddingOf_padding hp asym _ _ fun _ => hp.paddingLength_fits _) hdec
    rwa [putU32_length _ _ _ (by omega)] at this

end Opcua.Chunk
