/-
  Model of the Browse filter of the node namespace (C33).

    server/view_service.go     suitableRef, suitableDirection, suitableRefType, getSubRefs
    server/namespace_node.go   NodeNameSpace.Browse

  Node ids are abstract keys (`Nat`; 0 is the null id "no reference type
  given").  The HasSubtype forest is a finite table `Graph`: node ↦ its direct
  forward HasSubtype targets in the order of `node.refs` (generated from the
  live address space into `Gen/RefTypes.lean`).  The Go recursion `getSubRefs`
  has no bound; the model takes fuel, and `mem_getSubRefs` shows that any fuel
  above the rank of the start node yields exactly the transitive closure when
  the forest is acyclic (on a cyclic forest the Go code overflows the stack).
-/
namespace Opcua.Browse

abbrev Graph := List (Nat × List Nat)

/-- `node.refs` restricted to forward HasSubtype targets; unknown node: none -/
def subs (g : Graph) (t : Nat) : List Nat :=
  match g with
  | [] => []
  | (k, cs) :: r => if k = t then cs else subs r t

/-- `getSubRefs(srv, nid)`: pre-order walk, a child followed by its own subtypes -/
def getSubRefs (g : Graph) : Nat → Nat → List Nat
  | 0, _ => []
  | fuel + 1, t => (subs g t).flatMap (fun c => c :: getSubRefs g fuel c)

/-- specification side: `x` is a proper (transitive) subtype of `t` -/
inductive Sub (g : Graph) : Nat → Nat → Prop
  | direct {c t : Nat} : c ∈ subs g t → Sub g c t
  | step {x c t : Nat} : c ∈ subs g t → Sub g x c → Sub g x t

/-- acyclicity witnessed by a rank function -/
def RankOK (g : Graph) (rank : Nat → Nat) : Prop := ∀ t c, c ∈ subs g t → rank c < rank t

def Acyclic (g : Graph) : Prop := ∃ rank, RankOK g rank

/-- the DFS computes exactly the transitive closure (given enough fuel) -/
theorem mem_getSubRefs (g : Graph) (rank : Nat → Nat) (hr : RankOK g rank) :
    ∀ (fuel t x : Nat), rank t < fuel → (x ∈ getSubRefs g fuel t ↔ Sub g x t) := by
  intro fuel
  induction fuel with
  | zero => intro t x h; omega
  | succ fuel ih =>
    intro t x hlt
    have hcr : ∀ c ∈ subs g t, rank c < fuel := fun c hc => by have := hr t c hc; omega
    simp only [getSubRefs, List.mem_flatMap, List.mem_cons]
    constructor
    · rintro ⟨c, hc, rfl | hx⟩
      · exact .direct hc
      · exact .step hc ((ih c x (hcr c hc)).1 hx)
    · intro hs
      cases hs with
      | direct hc => exact ⟨x, hc, Or.inl rfl⟩
      | step hc hxc => exact ⟨_, hc, Or.inr ((ih _ x (hcr _ hc)).2 hxc)⟩

/-- id.HasSubtype -/
def hasSubtype : Nat := 45
/-- id.HasTypeDefinition -/
def hasTypeDefinition : Nat := 40

/-- `suitableRefType(srv, ref1, ref2, subtypes)` (after the repair of
    C33.subtypes-match-when-excluded / C33.browse-panics-hassubtype-deletion):
    ```
    if ref1 is the null id { return true }
    if ref1.Equal(ref2) { return true }
    if !subtypes { return false }
    oktypes := getSubRefs(srv, ref1)
    return slices.ContainsFunc(oktypes, isRef2)
    ``` -/
def suitableRefType (g : Graph) (fuel : Nat) (t1 t2 : Nat) (subtypes : Bool) : Bool :=
  if t1 = 0 then true
  else if t1 = t2 then true
  else if !subtypes then false
  else (getSubRefs g fuel t1).contains t2

/-- one entry of `node.refs` as far as Browse looks at it -/
structure Ref where
  refType : Nat
  isForward : Bool
  target : Nat
  /-- `ReferenceDescription.NodeClass`, recorded when the reference was added -/
  storedClass : Nat
  /-- the NodeClass attribute of the target node now -/
  targetClass : Nat
  /-- the target is a node of this server's address space (`srv.Node(...) != nil`) -/
  targetExists : Bool
  /-- NodeID, BrowseName, DisplayName or TypeDefinition is nil: Browse skips it -/
  nilField : Bool
  deriving Repr, DecidableEq

structure Desc where
  /-- ua.BrowseDirection: 0 forward, 1 inverse, 2 both -/
  dir : Nat
  refType : Nat
  includeSubtypes : Bool
  classMask : Nat
  deriving Repr, DecidableEq

/-- the class the mask is applied to (after the repair of C33.nodeclass-mask-uses-stale-class):
    the class the target node has now; the class recorded in the reference only when the
    target is not in the address space -/
def Ref.cls (r : Ref) : Nat := if r.targetExists then r.targetClass else r.storedClass

def suitableDirection (bd : Nat) (isForward : Bool) : Bool :=
  bd = 2 || (bd = 0 && isForward) || (bd = 1 && !isForward)

/-- `suitableRef(srv, desc, ref)`: direction, then reference type, then class mask -/
def suitableRef (g : Graph) (fuel : Nat) (d : Desc) (r : Ref) : Bool :=
  if !suitableDirection d.dir r.isForward then false
  else if !suitableRefType g fuel d.refType r.refType d.includeSubtypes then false
  else if d.classMask > 0 && d.classMask &&& r.cls = 0 then false
  else true

/-- the loop of `NodeNameSpace.Browse` over `n.refs`; a forward HasTypeDefinition
    reference is put first, everything else is appended -/
def browseLoop (g : Graph) (fuel : Nat) (d : Desc) : List Ref → List Ref → List Ref
  | [], acc => acc
  | r :: rest, acc =>
    if r.nilField then browseLoop g fuel d rest acc
    else if suitableRef g fuel d r then
      (if r.refType = hasTypeDefinition ∧ r.isForward = true then browseLoop g fuel d rest (r :: acc)
       else browseLoop g fuel d rest (acc ++ [r]))
    else browseLoop g fuel d rest acc

def browse (g : Graph) (fuel : Nat) (d : Desc) (refs : List Ref) : List Ref := browseLoop g fuel d refs []

/-! ### specification -/

/-- Part 4, 5.8.2 as the property states it -/
def SpecMatch (g : Graph) (d : Desc) (r : Ref) : Prop :=
  suitableDirection d.dir r.isForward = true ∧
  (d.refType = 0 ∨ r.refType = d.refType ∨ (d.includeSubtypes = true ∧ Sub g r.refType d.refType)) ∧
  (d.classMask = 0 ∨ d.classMask &&& r.cls ≠ 0)

/-- the reference type clause as a Boolean (the closure computed with fuel) -/
def typeOkB (g : Graph) (fuel : Nat) (d : Desc) (t2 : Nat) : Bool :=
  d.refType = 0 || t2 = d.refType || (d.includeSubtypes && (getSubRefs g fuel d.refType).contains t2)

/-- the class mask clause, on the class of the target node -/
def classOkB (d : Desc) (cls : Nat) : Bool := d.classMask = 0 || d.classMask &&& cls ≠ 0

/-- the specification as a Boolean -/
def specMatchB (g : Graph) (fuel : Nat) (d : Desc) (r : Ref) : Bool :=
  suitableDirection d.dir r.isForward && typeOkB g fuel d r.refType && classOkB d r.cls

theorem typeOkB_iff (g : Graph) (rank : Nat → Nat) (hr : RankOK g rank) (fuel : Nat) (d : Desc)
    (hf : rank d.refType < fuel) (t2 : Nat) :
    typeOkB g fuel d t2 = true ↔
      d.refType = 0 ∨ t2 = d.refType ∨ (d.includeSubtypes = true ∧ Sub g t2 d.refType) := by
  simp only [typeOkB, Bool.and_eq_true, Bool.or_eq_true, decide_eq_true_eq, List.contains_iff_mem,
    mem_getSubRefs g rank hr fuel d.refType t2 hf, or_assoc]

theorem specMatchB_iff (g : Graph) (rank : Nat → Nat) (hr : RankOK g rank) (fuel : Nat) (d : Desc)
    (hf : rank d.refType < fuel) (r : Ref) : specMatchB g fuel d r = true ↔ SpecMatch g d r := by
  simp only [specMatchB, classOkB, SpecMatch, Bool.and_eq_true, typeOkB_iff g rank hr fuel d hf, Bool.or_eq_true,
    decide_eq_true_eq, ne_eq, and_assoc]

/-- the reference type test is the specification's, for every request -/
theorem suitableRefType_eq (g : Graph) (fuel : Nat) (d : Desc) (t2 : Nat) :
    suitableRefType g fuel d.refType t2 d.includeSubtypes = typeOkB g fuel d t2 := by
  unfold suitableRefType typeOkB
  by_cases h0 : d.refType = 0
  · simp [h0]
  · by_cases he : d.refType = t2
    · simp [he]
    · cases hs : d.includeSubtypes <;> simp [h0, he, Ne.symm he]

theorem suitableRef_eq (g : Graph) (fuel : Nat) (d : Desc) (r : Ref) :
    suitableRef g fuel d r = specMatchB g fuel d r := by
  unfold suitableRef specMatchB
  rw [suitableRefType_eq g fuel d r.refType]
  cases suitableDirection d.dir r.isForward
  · simp
  · cases typeOkB g fuel d r.refType
    · simp
    · by_cases hm : d.classMask = 0 <;> simp [classOkB, hm, Nat.pos_iff_ne_zero]

/-- the loop invariant: Browse returns a permutation of what it had plus the matching references -/
theorem browseLoop_perm (g : Graph) (fuel : Nat) (d : Desc) :
    ∀ (refs acc : List Ref), (∀ r ∈ refs, r.nilField = false) →
      (browseLoop g fuel d refs acc).Perm (acc ++ refs.filter (specMatchB g fuel d)) := by
  intro refs
  induction refs with
  | nil => intro acc _; simp [browseLoop]
  | cons r rest ih =>
    intro acc hall
    obtain ⟨hr, hrest⟩ := List.forall_mem_cons.mp hall
    unfold browseLoop
    rw [if_neg (by simp [hr]), suitableRef_eq, List.filter_cons]
    cases specMatchB g fuel d r
    · simpa using ih acc hrest
    · simp only [if_true]
      split
      · exact (ih (r :: acc) hrest).trans List.perm_middle.symm
      · simpa using ih (acc ++ [r]) hrest

theorem mem_browse (g : Graph) (rank : Nat → Nat) (hr : RankOK g rank) (fuel : Nat) (d : Desc)
    (hf : rank d.refType < fuel) (refs : List Ref) (hwf : ∀ r ∈ refs, r.nilField = false) (r : Ref) :
    r ∈ browse g fuel d refs ↔ r ∈ refs ∧ SpecMatch g d r := by
  rw [browse, (browseLoop_perm g fuel d refs [] hwf).mem_iff]
  simp [List.mem_filter, specMatchB_iff g rank hr fuel d hf r]

/-! ### decidable acyclicity check -/

def lookupRank (tbl : List (Nat × Nat)) (k : Nat) : Nat :=
  match tbl with
  | [] => 0
  | (a, b) :: r => if a = k then b else lookupRank r k

/-- every edge of the table goes down in rank -/
def rankCheck (g : Graph) (tbl : List (Nat × Nat)) : Bool :=
  g.all fun e => e.2.all fun c => decide (lookupRank tbl c < lookupRank tbl e.1)

theorem subs_mem (g : Graph) (t c : Nat) (h : c ∈ subs g t) : ∃ cs, (t, cs) ∈ g ∧ c ∈ cs := by
  induction g with
  | nil => simp [subs] at h
  | cons e r ih =>
    obtain ⟨k, cs⟩ := e
    unfold subs at h
    split at h
    · next hk => exact ⟨cs, hk ▸ List.mem_cons_self, h⟩
    · obtain ⟨cs', h1, h2⟩ := ih h
      exact ⟨cs', List.mem_cons_of_mem _ h1, h2⟩

theorem rankOK_of_check (g : Graph) (tbl : List (Nat × Nat)) (h : rankCheck g tbl = true) :
    RankOK g (lookupRank tbl) := by
  intro t c hc
  obtain ⟨cs, h1, h2⟩ := subs_mem g t c hc
  simp only [rankCheck, List.all_eq_true, decide_eq_true_eq] at h
  exact h (t, cs) h1 c h2

theorem lookupRank_lt (tbl : List (Nat × Nat)) (n : Nat) (h0 : 0 < n)
    (h : tbl.all (fun e => decide (e.2 < n)) = true) (t : Nat) : lookupRank tbl t < n := by
  induction tbl with
  | nil => exact h0
  | cons e r ih =>
    simp only [List.all_cons, Bool.and_eq_true, decide_eq_true_eq] at h
    unfold lookupRank
    split
    · exact h.1
    · exact ih h.2

end Opcua.Browse
