import OpcuaModel.Gen.RenewExpr
/-
  C16 — (a) the delay of `scheduleRenewal`, (c) re-keying of the one instance
  object of a server channel while other goroutines send.
-/
namespace Opcua.SendRenew

/-- `when` of `scheduleRenewal` in nanoseconds for a revised lifetime of `L`
    milliseconds, from the shape the generator matched:
    `time.Duration(float64(lifetime)*renewAfter)` (truncation unit 1 ns; for a
    lifetime of `L` < 2^32 whole milliseconds the float64 step is exact, because
    three quarters of `L`·10⁶ ns is a whole number and 3·`L`·10⁶ < 2^54:
    `C16_float_exact`) or, before the repair,
    `unit * time.Duration(lifetime.Seconds()*renewAfter)` (truncated to whole `unit`s). -/
def renewDelayNs (L : Nat) : Nat :=
  (L * 1000000 * Gen.RenewExpr.fracNum / (Gen.RenewExpr.fracDen * Gen.RenewExpr.truncUnitNs)) * Gen.RenewExpr.truncUnitNs

theorem renewDelayNs_eq (L : Nat) : renewDelayNs L = 750000 * L := by
  simp only [renewDelayNs, Gen.RenewExpr.fracNum, Gen.RenewExpr.fracDen, Gen.RenewExpr.truncUnitNs]
  omega

/-- the renewal is due no earlier than half of the lifetime and before it ends -/
def InWindow (L : Nat) : Prop := L * 1000000 ≤ 2 * renewDelayNs L ∧ renewDelayNs L < L * 1000000

instance (L : Nat) : Decidable (InWindow L) := by unfold InWindow; exact inferInstance

/-! ### (c) server side: `handleOpenSecureChannelRequest` re-keys the same instance -/

inductive Algo where
  | sym (k : Nat)
  | asym
  deriving DecidableEq, Repr

inductive RecvPC where
  | idle        -- in `Receive`, no OPN in progress
  | gotOPN      -- `readChunk` saw an OPN chunk: `s.openingInstance.algo = asymmetric` (no lock)
  | handling    -- `handleOpenSecureChannelRequest`: `instance.algo = algo` (asymmetric, no lock)
  | respLocked  -- `sendResponseWithContext`: instance lock held
  | respWritten
  | respDone    -- response sent, lock released; next: `instance.algo = Symmetric(new nonces)` (no lock)
  deriving DecidableEq, Repr

inductive SendPC where
  | idle | locked | secured | done
  deriving DecidableEq, Repr

structure RSt where
  algo : Algo
  gen : Nat
  holder : Option Nat          -- 0 = receiver, t + 1 = sender t
  rpc : RecvPC
  spc : Nat → SendPC
  /-- (is OPN response, algorithm that secured the chunk), newest first -/
  wire : List (Bool × Algo)

def rinit : RSt := { algo := .sym 0, gen := 0, holder := none, rpc := .idle, spc := fun _ => .idle, wire := [] }

inductive RLabel where
  | readOPN | handleAsym | respLock | respWrite | respUnlock | installSym
  | sLock (t : Nat) | sSecure (t : Nat) | sUnlock (t : Nat)
  deriving DecidableEq, Repr

def updS (f : Nat → SendPC) (k : Nat) (v : SendPC) : Nat → SendPC := fun j => if j = k then v else f j

def rstep? (s : RSt) : RLabel → Option RSt
  | .readOPN => if s.rpc = .idle then some { s with rpc := .gotOPN, algo := .asym } else none
  | .handleAsym => if s.rpc = .gotOPN then some { s with rpc := .handling, algo := .asym } else none
  | .respLock => if s.rpc = .handling ∧ s.holder = none then some { s with rpc := .respLocked, holder := some 0 } else none
  | .respWrite => if s.rpc = .respLocked then some { s with rpc := .respWritten, wire := (true, s.algo) :: s.wire } else none
  | .respUnlock => if s.rpc = .respWritten then some { s with rpc := .respDone, holder := none } else none
  | .installSym => if s.rpc = .respDone then some { s with rpc := .idle, algo := .sym (s.gen + 1), gen := s.gen + 1 } else none
  | .sLock t => if s.spc t = .idle ∧ s.holder = none then some { s with spc := updS s.spc t .locked, holder := some (t + 1) } else none
  | .sSecure t => if s.spc t = .locked then some { s with spc := updS s.spc t .secured, wire := (false, s.algo) :: s.wire } else none
  | .sUnlock t => if s.spc t = .secured then some { s with spc := updS s.spc t .done, holder := none } else none

def rrun? (s : RSt) : List RLabel → Option RSt
  | [] => some s
  | l :: ls => match rstep? s l with
    | some s' => rrun? s' ls
    | none => none

inductive RReachable : RSt → Prop where
  | init : RReachable rinit
  | step {s s' : RSt} (l : RLabel) : RReachable s → rstep? s l = some s' → RReachable s'

/-- guard: a response sender secures its chunk only while no OPN request is being processed -/
def RGuard (s : RSt) : RLabel → Prop
  | .sSecure _ => s.rpc = .idle
  | _ => True

instance (s : RSt) (l : RLabel) : Decidable (RGuard s l) := by
  cases l <;> simp only [RGuard] <;> exact inferInstance

inductive RReachableG : RSt → Prop where
  | init : RReachableG rinit
  | step {s s' : RSt} (l : RLabel) : RReachableG s → RGuard s l → rstep? s l = some s' → RReachableG s'

/-- every MSG chunk on the wire is secured with a symmetric algorithm -/
def AllMsgSym (w : List (Bool × Algo)) : Prop := ∀ c ∈ w, c.1 = false → ∃ k, c.2 = .sym k

theorem rguard_inv {s : RSt} (h : RReachableG s) : (s.rpc = .idle → ∃ k, s.algo = .sym k) ∧ AllMsgSym s.wire := by
  induction h with
  | init => simp [rinit, AllMsgSym]
  | step l _ hg hs ih =>
    obtain ⟨i1, i2⟩ := ih
    unfold AllMsgSym at *
    -- only `sSecure` writes a MSG chunk; the guard admits it when `rpc = idle`, where `algo` is symmetric
    cases l <;> simp only [rstep?] at hs <;> simp only [RGuard] at hg <;> grind

end Opcua.SendRenew
