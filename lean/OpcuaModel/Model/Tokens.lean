import OpcuaModel.Base.Lists
/-
  Model of the security-token table of a gopcua client channel
  (`uasc/secure_channel.go`): `SecureChannel.instances`, a map from secure
  channel id to the list of channel instances (one per token) kept for
  decryption.

    handleOpenSecureChannelResponse:
        s.instances[resp.SecurityToken.ChannelID] = append(s.instances[ChannelID], s.openingInstance)
        go s.scheduleExpiration(instance)
    verifyAndDecrypt(m, b, nil):
        instances := s.instances[m.SecureChannelID]; len 0 → "unable to find instance"
        for i := len(instances)-1; i >= 0; i-- { if ok with instances[i] → return }  (newest first)
        return the last error
    scheduleExpiration(instance), after the timer (createdAt + 1.25·lifetime):
        oldInstances := s.instances[instance.securityTokenID]          -- indexed by TOKEN id
        s.instances[instance.securityTokenID] = []*channelInstance{}
        for _, old := range oldInstances { if old.securityTokenID == instance.securityTokenID { continue }; append }

  Key material is abstracted to an identity `key` (one per pair of nonces): a
  chunk secured with key k verifies under an instance iff the instance has key k.
-/
namespace Opcua.Tokens
open Opcua

structure Inst where
  chan : Nat
  tok : Nat
  key : Nat
  deriving Repr, DecidableEq

abbrev Table := List (Nat × List Inst)

def Table.get (t : Table) (r : Nat) : List Inst :=
  match t.find? (fun e => e.1 == r) with
  | some e => e.2
  | none => []

def Table.set (t : Table) (r : Nat) (v : List Inst) : Table :=
  (r, v) :: t.filter (fun e => !(e.1 == r))

/-- `handleOpenSecureChannelResponse`: the new instance is appended under its channel id -/
def install (t : Table) (i : Inst) : Table := t.set i.chan (t.get i.chan ++ [i])

/-- the body of `scheduleExpiration` once the timer has fired — as written -/
def expire (t : Table) (i : Inst) : Table :=
  t.set i.tok ((t.get i.tok).filter (fun o => !(o.tok == i.tok)))

inductive Verdict where
  /-- verified with the instance of this token id -/
  | accepted (tok : Nat)
  /-- `sechan: unable to find instance for SecureChannelID` -/
  | noInstance
  /-- `StatusBadSecurityChecksFailed` (every stored instance refused) -/
  | securityFailed
  deriving Repr, DecidableEq

/-- `SecureChannel.verifyAndDecrypt(m, b, nil)` for a chunk with channel id
    `chan` in its header, secured with key `key` -/
def verify (t : Table) (chan key : Nat) : Verdict :=
  match t.get chan with
  | [] => .noInstance
  | l =>
    match l.reverse.find? (fun i => i.key == key) with
    | some i => .accepted i.tok
    | none => .securityFailed

inductive Ev where
  | opn (i : Inst)
  | expire (i : Inst)
  | chunk (chan key : Nat)
  deriving Repr, DecidableEq

/-- `SecureChannel.verifyAndDecrypt(m, b, nil)` on a channel in mode None: `channelInstance.verifyAndDecrypt` returns
    the chunk as it is (`SecurityMode == None && !isAsymmetric`), so the first
    instance tried — the newest one stored for the header's channel id —
    "verifies" every chunk; neither keys nor the token id of the symmetric
    security header are looked at -/
def verifyNone (t : Table) (chan : Nat) : Verdict :=
  match (t.get chan).reverse with
  | [] => .noInstance
  | i :: _ => .accepted i.tok

/-- verdicts of the chunk events of a run on a mode-None channel -/
def verdictsNone : Table → List Ev → List Verdict
  | _, [] => []
  | t, .chunk c _ :: r => verifyNone t c :: verdictsNone t r
  | t, .opn i :: r => verdictsNone (install t i) r
  | t, .expire i :: r => verdictsNone (expire t i) r

def stepEv (t : Table) : Ev → Table × Option Verdict
  | .opn i => (install t i, none)
  | .expire i => (expire t i, none)
  | .chunk c k => (t, some (verify t c k))

def runEvs : Table → List Ev → Table
  | t, [] => t
  | t, e :: r => runEvs (stepEv t e).1 r

def verdicts : Table → List Ev → List Verdict
  | _, [] => []
  | t, e :: r =>
    match (stepEv t e).2 with
    | some v => v :: verdicts (stepEv t e).1 r
    | none => verdicts (stepEv t e).1 r

@[simp] theorem Table.get_set_same (t : Table) (r : Nat) (v : List Inst) : (t.set r v).get r = v := by
  simp [Table.get, Table.set]

@[simp] theorem Table.get_set_other (t : Table) {r r' : Nat} (v : List Inst) (h : r' ≠ r) :
    (t.set r v).get r' = t.get r' := by
  have h' : (r == r') = false := by simpa using fun e => h (Eq.symm e)
  unfold Table.get Table.set
  rw [List.find?_cons, h', Lists.find_filter_other t h]

/-- expiry only ever touches the entry keyed by the instance's TOKEN id -/
@[simp] theorem expire_get_other (t : Table) (i : Inst) {r : Nat} (h : r ≠ i.tok) :
    (expire t i).get r = t.get r := Table.get_set_other t _ h

@[simp] theorem expire_get_tok (t : Table) (i : Inst) :
    (expire t i).get i.tok = (t.get i.tok).filter (fun o => !(o.tok == i.tok)) := Table.get_set_same t _ _

@[simp] theorem install_get_same (t : Table) (i : Inst) : (install t i).get i.chan = t.get i.chan ++ [i] :=
  Table.get_set_same t _ _

@[simp] theorem install_get_other (t : Table) (i : Inst) {r : Nat} (h : r ≠ i.chan) :
    (install t i).get r = t.get r := Table.get_set_other t _ h

theorem verify_accepts_of_mem {t : Table} {c k : Nat} {i : Inst} (hm : i ∈ t.get c) (hk : i.key = k) :
    ∃ tok, verify t c k = .accepted tok := by
  unfold verify
  split
  · rename_i h; rw [h] at hm; cases hm
  · split
    · exact ⟨_, rfl⟩
    · rename_i hf
      have := List.find?_eq_none.mp hf i (List.mem_reverse.mpr hm)
      simp [hk] at this

theorem verify_accepted {t : Table} {c k tok : Nat} (h : verify t c k = .accepted tok) :
    ∃ i ∈ t.get c, i.key = k ∧ i.tok = tok := by
  unfold verify at h
  split at h
  · cases h
  · split at h
    · rename_i i hf
      cases h
      exact ⟨i, List.mem_reverse.mp (List.mem_of_find?_eq_some hf), by simpa using List.find?_some hf, rfl⟩
    · cases h

/-- after the expiry of `i` a chunk for channel id `i.tok` under key `k` is refused, provided the
    instances stored there under `k` all belong to the token of `i` -/
theorem verify_expire_rejects (t : Table) (i : Inst) (k : Nat)
    (huniq : ∀ o ∈ t.get i.tok, o.key = k → o.tok = i.tok) (tok : Nat) :
    verify (expire t i) i.tok k ≠ .accepted tok := by
  intro hv
  obtain ⟨j, hj, hk, -⟩ := verify_accepted hv
  rw [expire_get_tok] at hj
  obtain ⟨hj1, hj2⟩ := List.mem_filter.mp hj
  simp [huniq j hj1 hk] at hj2

/-- no expiry in the sequence is that of an instance whose token id is `c`
    (OPN responses and chunks are unrestricted) -/
def NoTokEqChan (c : Nat) : List Ev → Prop
  | [] => True
  | .expire i :: r => i.tok ≠ c ∧ NoTokEqChan c r
  | _ :: r => NoTokEqChan c r

/-- an instance once stored for channel `c` survives every event sequence in which no expiring token id is `c` -/
theorem kept_forever {c : Nat} {evs : List Ev} {t : Table} {i : Inst}
    (hno : NoTokEqChan c evs) (hm : i ∈ t.get c) : i ∈ (runEvs t evs).get c := by
  induction evs generalizing t with
  | nil => exact hm
  | cons e r ih =>
    cases e with
    | opn j =>
      apply ih hno
      simp only [stepEv]
      by_cases hc : c = j.chan
      · subst hc; rw [install_get_same]; exact List.mem_append_left _ hm
      · rw [install_get_other t j hc]; exact hm
    | expire j =>
      apply ih hno.2
      simp only [stepEv]
      rw [expire_get_other t j (fun e => hno.1 e.symm)]
      exact hm
    | chunk a k => exact ih hno hm


end Opcua.Tokens
