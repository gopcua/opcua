/-
  The receive gate of a client channel (`uasc/secure_channel.go`, dispatcher):

      msg := s.Receive(ctx)
      ch, ok := s.popHandler(msg.RequestID); if !ok { continue }
      if _, ok := msg.Response().(*ua.OpenSecureChannelResponse); ok { s.rcvLocker.lock() }   // "HACK"
      ch <- msg
      s.rcvLocker.waitIfLock()

  `rcvLocker.unlock()` is called in exactly two places: `defer` in `open()` and in
  `close()`.  The dispatcher does not check that the response belongs to an
  OpenSecureChannel request: ANY response whose body is an
  OpenSecureChannelResponse and whose request id has a handler locks the gate.
-/
namespace Opcua.Gate

/-- a decoded response read by the dispatcher -/
structure Resp where
  req : Nat
  isOPN : Bool
  deriving Repr, DecidableEq

structure St where
  /-- `rcvLocker.bLock` -/
  locked : Bool := false
  /-- request ids with a registered handler -/
  handlers : List Nat := []
  /-- responses that have arrived on the socket and are not yet read -/
  queue : List Resp := []
  /-- request ids whose handler received its message, newest first -/
  delivered : List Nat := []
  deriving Repr, DecidableEq

inductive Ev where
  /-- a response arrives on the socket -/
  | arrive (r : Resp)
  /-- a request is sent: its handler is registered -/
  | register (req : Nat)
  /-- the caller's timer fires: `popHandler(reqID)` -/
  | timeout (req : Nat)
  /-- the dispatcher performs one loop iteration (possible only while the gate is open) -/
  | dispatch
  /-- some `open()` returns (successfully or by its timeout): deferred `rcvLocker.unlock()` -/
  | openReturns
  /-- `Close()` -/
  | close
  deriving Repr, DecidableEq

def step (st : St) : Ev → St
  | .arrive r => { st with queue := st.queue ++ [r] }
  | .register q => { st with handlers := q :: st.handlers }
  | .timeout q => { st with handlers := st.handlers.filter (· ≠ q) }
  | .dispatch =>
    if st.locked then st else
    match st.queue with
    | [] => st
    | r :: rest =>
      if r.req ∈ st.handlers then
        { locked := r.isOPN, handlers := st.handlers.filter (· ≠ r.req), queue := rest, delivered := r.req :: st.delivered }
      else { st with queue := rest }
  | .openReturns => { st with locked := false }
  | .close => { st with locked := false }

def run : St → List Ev → St
  | st, [] => st
  | st, e :: r => run (step st e) r

/-- the events that can happen while nobody calls `open()` or `Close()` -/
def Ev.quiet : Ev → Bool
  | .openReturns => false
  | .close => false
  | _ => true

theorem step_locked_quiet (st : St) (e : Ev) (hl : st.locked = true) (hq : e.quiet = true) :
    (step st e).locked = true ∧ (step st e).delivered = st.delivered ∧ st.queue <+: (step st e).queue := by
  cases e <;> simp_all [step, Ev.quiet]

/-- while the gate is locked and no `open()` returns, nothing is delivered and
    nothing is taken from the socket, however many responses arrive: the queue
    only grows at its end -/
theorem wedged_prefix (st : St) (evs : List Ev) (hl : st.locked = true) (hq : ∀ e ∈ evs, e.quiet = true) :
    (run st evs).locked = true ∧ (run st evs).delivered = st.delivered ∧ st.queue <+: (run st evs).queue := by
  induction evs generalizing st with
  | nil => exact ⟨hl, rfl, List.prefix_refl _⟩
  | cons e r ih =>
    obtain ⟨h1, h2, h3⟩ := step_locked_quiet st e hl (hq e (List.mem_cons_self ..))
    obtain ⟨i1, i2, i3⟩ := ih (step st e) h1 (fun x hx => hq x (List.mem_cons_of_mem _ hx))
    exact ⟨i1, i2.trans h2, h3.trans i3⟩

/-- … in particular the queue never gets shorter -/
theorem wedged (st : St) (evs : List Ev) (hl : st.locked = true) (hq : ∀ e ∈ evs, e.quiet = true) :
    (run st evs).locked = true ∧ (run st evs).delivered = st.delivered ∧
    st.queue.length ≤ (run st evs).queue.length :=
  (wedged_prefix st evs hl hq).imp_right (.imp_right List.IsPrefix.length_le)

end Opcua.Gate
