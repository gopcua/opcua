/-
  C16(a): the float64 step of `time.Duration(float64(lifetime) * 0.75)`.

  `lifetime` is an int64 number of nanoseconds x.  For x < 2^53 the conversion
  `float64(x)` is exact.  0.75 = 3·2^-2 is a float64.  IEEE-754 multiplication
  returns the exact product 3x/4 rounded to 53 significant bits, ties to even;
  the conversion to `time.Duration` truncates toward zero.  Everything is done
  in quarter nanoseconds (V = 3x stands for V/4), so only naturals are needed.
-/
namespace Opcua.SendFloat

/-- v rounded to the nearest multiple of u, ties to the even multiple -/
def roundNE (v u : Nat) : Nat :=
  let q := v / u
  let r := v % u
  if 2 * r < u then q * u
  else if u < 2 * r then (q + 1) * u
  else if q % 2 = 0 then q * u else (q + 1) * u

/-- unit in the last place of a 53-bit significand for the value V (in the unit of V) -/
def ulp53 (V : Nat) : Nat := if V < 2 ^ 53 then 1 else 2 ^ (Nat.log2 V - 52)

/-- `int64(float64(x) * 0.75)` for 0 ≤ x < 2^53 -/
def f64mul075 (x : Nat) : Nat := roundNE (3 * x) (ulp53 (3 * x)) / 4

theorem ulp53_small {V : Nat} (h : V < 2 ^ 53) : ulp53 V = 1 := by simp [ulp53, h]

theorem ulp53_mid {V : Nat} (h1 : 2 ^ 53 ≤ V) (h2 : V < 2 ^ 54) : ulp53 V = 2 := by
  have hne : V ≠ 0 := by omega
  have a : 53 ≤ Nat.log2 V := (Nat.le_log2 hne).2 h1
  have b : Nat.log2 V < 54 := (Nat.log2_lt hne).2 h2
  have : Nat.log2 V = 53 := by omega
  simp [ulp53, this]
  omega

theorem roundNE_one (v : Nat) : roundNE v 1 = v := by
  simp [roundNE, Nat.mod_one]

/-- exact below 2^53 quarter nanoseconds (lifetimes up to 2^53/3 ns ≈ 34.7 days) -/
theorem f64_exact_small (x : Nat) (h : 3 * x < 2 ^ 53) : f64mul075 x = 3 * x / 4 := by
  simp [f64mul075, ulp53_small h, roundNE_one]

/-- with an ulp of two quarter nanoseconds an even `v` is exact and an odd `v` a tie, which goes to the
    neighbour with the even half -/
theorem roundNE_two (v : Nat) : roundNE v 2 = if v % 2 = 0 then v else if v / 2 % 2 = 0 then v - 1 else v + 1 := by
  have hv := Nat.div_add_mod v 2
  rcases Nat.mod_two_eq_zero_or_one v with h | h <;> simp only [roundNE, h]
  · simp; omega
  · simp; split <;> omega

/-- exact whenever 0.75·x is a whole number of nanoseconds, for every x below 2^54/3 -/
theorem f64_exact_div4 (x : Nat) (h : 3 * x < 2 ^ 54) (hd : 3 * x % 4 = 0) : f64mul075 x = 3 * x / 4 := by
  by_cases hs : 3 * x < 2 ^ 53
  · exact f64_exact_small x hs
  · rw [f64mul075, ulp53_mid (Nat.le_of_not_lt hs) h, roundNE_two, if_pos (by omega)]

/-- in general the result is ⌊0.75·x⌋ or ⌊0.75·x⌋ + 1 -/
theorem f64_bound (x : Nat) (h : 3 * x < 2 ^ 54) : 3 * x / 4 ≤ f64mul075 x ∧ f64mul075 x ≤ 3 * x / 4 + 1 := by
  by_cases hs : 3 * x < 2 ^ 53
  · rw [f64_exact_small x hs]; omega
  · rw [f64mul075, ulp53_mid (Nat.le_of_not_lt hs) h, roundNE_two]
    split
    · omega
    · split <;> omega

/-- the +1 really occurs (0.75·x = k + 0.75 in the binade [2^51, 2^52) rounds up to k + 1) -/
theorem f64_plus_one_witness : f64mul075 3002399751580333 = 3 * 3002399751580333 / 4 + 1 := by decide

end Opcua.SendFloat
