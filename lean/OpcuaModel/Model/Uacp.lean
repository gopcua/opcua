import OpcuaModel.Base.Bytes
/-
  Model of the UACP framing layer: `(*uacp.Conn).Receive` (uacp/conn.go:375)
  reading from a TCP byte stream that arrives in arbitrary segments.

  A `Stream` is the list of segments still to arrive; one `Read` of the
  socket returns (a prefix of) the first segment.  `readFull n` is
  `io.ReadFull(c, buf[:n])`: it loops over `Read` until `n` bytes are there
  and fails with `io.EOF` when the stream ended before the first byte and
  with `io.ErrUnexpectedEOF` when it ended later.  `io.ReadFull` of zero
  bytes returns at once without reading.

  `receive` follows `Conn.Receive` statement by statement (see the comments),
  `receiveAll` is the caller's loop "Receive until the first error".
  `receiveFlat`/`receiveAllFlat` are the same functions on the plain byte
  string; `receiveAll_flat` proves that the segment version only depends on
  the concatenation of the segments.
-/
namespace Opcua.Uacp
open Opcua

abbrev Stream := List Bytes

inductive ReadErr where
  | eof | unexpectedEOF
  deriving DecidableEq, Repr

inductive ReadRes where
  | ok (b : Bytes) (rest : Stream)
  | err (e : ReadErr)
  deriving DecidableEq, Repr

/-- `io.ReadFull(conn, buf[:n])` over the segments still to arrive -/
def readFull : Nat → Stream → ReadRes
  | 0, s => .ok [] s
  | _ + 1, [] => .err .eof
  | n + 1, seg :: rest =>
    if seg.length ≤ n + 1 then
      match readFull (n + 1 - seg.length) rest with
      | .ok b r => .ok (seg ++ b) r
      | .err e => .err (if seg.isEmpty then e else .unexpectedEOF)
    else .ok (seg.take (n + 1)) (seg.drop (n + 1) :: rest)

/-- why `Receive` stopped delivering frames -/
inductive Stop where
  /-- `io.EOF`: the stream ended on a frame boundary (or right after a header) -/
  | eof
  /-- `io.ErrUnexpectedEOF`: the stream ended inside a header or body -/
  | unexpectedEOF
  /-- "uacp: message too large" -/
  | tooLarge
  /-- "uacp: message too small" -/
  | tooSmall
  /-- an `ERR` frame, decoded into `*uacp.Error` and returned as the error -/
  | errf (code : Nat) (reason : Bytes)
  /-- "uacp: failed to decode ERRF message" -/
  | errDecode
  /-- run-time panic (slice bounds out of range) -/
  | panic
  deriving DecidableEq, Repr

def Stop.ofReadErr : ReadErr → Stop
  | .eof => .eof
  | .unexpectedEOF => .unexpectedEOF

/-- length of the UACP message header: type (3), chunk type (1), MessageSize (4) -/
def hdrlen : Nat := 8

/-- `Header.Decode`: MessageSize, little endian in bytes 4..8 -/
def sizeOfHeader (hdr : Bytes) : Nat := leVal ((hdr.drop 4).take 4)

/-- `h.MessageType == "ERR"` -/
def isErrType (hdr : Bytes) : Bool := hdr.take 3 == [0x45, 0x52, 0x52]

/-- `(*uacp.Error).Decode` on the body of an `ERR` frame: `ReadUint32` then
    `ReadString` (`ua.Buffer`); `none` = the buffer reported an error.
    Length 0 and 0xffffffff both give the empty string; trailing bytes are ignored. -/
def decodeErr (body : Bytes) : Option (Nat × Bytes) :=
  if body.length < 4 then none else
  let code := leVal (body.take 4)
  let r := body.drop 4
  if r.length < 4 then none else
  let n := leVal (r.take 4)
  let d := r.drop 4
  if n = 0 ∨ n = 0xffffffff then some (code, [])
  else if n > d.length then none
  else some (code, d.take n)

inductive Rx where
  | frame (f : Bytes) (rest : Stream)
  | stop (o : Stop)
  deriving DecidableEq, Repr

/-- `(*Conn).Receive` with `c.ack.ReceiveBufSize = rcvBuf` -/
def receive (rcvBuf : Nat) (s : Stream) : Rx :=
  -- b := make([]byte, c.ack.ReceiveBufSize); io.ReadFull(c, b[:hdrlen]) — the slice
  -- expression panics when cap(b) < 8, before anything is read
  if rcvBuf < hdrlen then .stop .panic else
  match readFull hdrlen s with
  | .err e => .stop (.ofReadErr e)
  | .ok hdr s1 =>
    -- h.Decode(b[:hdrlen]) cannot fail on 8 bytes
    let size := sizeOfHeader hdr
    if size > rcvBuf then .stop .tooLarge
    else if size < hdrlen then .stop .tooSmall
    else
      -- io.ReadFull(c, b[hdrlen:h.MessageSize])
      match readFull (size - hdrlen) s1 with
      | .err e => .stop (.ofReadErr e)
      | .ok body s2 =>
        if isErrType hdr then
          match decodeErr body with
          | none => .stop .errDecode
          | some (c, r) => .stop (.errf c r)
        else .frame (hdr ++ body) s2

def streamLen (s : Stream) : Nat := s.flatten.length

/-! ### `readFull` only depends on the concatenation -/

theorem readFull_spec (n : Nat) (s : Stream) :
    match readFull n s with
    | .ok b r => n ≤ s.flatten.length ∧ b = s.flatten.take n ∧ r.flatten = s.flatten.drop n
    | .err e => s.flatten.length < n ∧ e = if s.flatten = [] then .eof else .unexpectedEOF := by
  fun_induction readFull n s with
  | case1 s => simp
  | case2 n => simp
  | case3 n seg rest hs b r h ih =>
    rw [h] at ih
    obtain ⟨h1, rfl, h3⟩ := ih
    simp [-List.length_flatten, List.take_append, List.drop_append, List.take_of_length_le hs,
      List.drop_of_length_le hs, h3]
    omega
  | case4 n seg rest hs e h ih =>
    rw [h] at ih
    obtain ⟨h1, rfl⟩ := ih
    refine ⟨by rw [List.flatten_cons, List.length_append]; omega, ?_⟩
    cases seg <;> simp
  | case5 n seg rest hs =>
    have hlt : n + 1 - seg.length = 0 := by omega
    simp [-List.length_flatten, List.take_append, List.drop_append, hlt]
    omega

theorem readFull_ok {n : Nat} {s : Stream} (h : n ≤ s.flatten.length) :
    ∃ r, readFull n s = .ok (s.flatten.take n) r ∧ r.flatten = s.flatten.drop n := by
  have := readFull_spec n s
  grind

theorem readFull_short {n : Nat} {s : Stream} (h : s.flatten.length < n) :
    readFull n s = .err (if s.flatten = [] then .eof else .unexpectedEOF) := by
  have := readFull_spec n s
  grind

/-! ### the same on the plain byte string -/

inductive RxFlat where
  | frame (f : Bytes) (rest : Bytes)
  | stop (o : Stop)
  deriving DecidableEq, Repr

def shortErr (bs : Bytes) : Stop := if bs = [] then .eof else .unexpectedEOF

def receiveFlat (rcvBuf : Nat) (bs : Bytes) : RxFlat :=
  if rcvBuf < hdrlen then .stop .panic else
  if bs.length < hdrlen then .stop (shortErr bs) else
  let hdr := bs.take hdrlen
  let s1 := bs.drop hdrlen
  let size := sizeOfHeader hdr
  if size > rcvBuf then .stop .tooLarge
  else if size < hdrlen then .stop .tooSmall
  else if s1.length < size - hdrlen then .stop (shortErr s1)
  else
    let body := s1.take (size - hdrlen)
    if isErrType hdr then
      match decodeErr body with
      | none => .stop .errDecode
      | some (c, r) => .stop (.errf c r)
    else .frame (hdr ++ body) (s1.drop (size - hdrlen))

def Rx.toFlat : Rx → RxFlat
  | .frame f r => .frame f r.flatten
  | .stop o => .stop o

/-- the header fields only depend on the first `hdrlen` bytes -/
theorem sizeOfHeader_take {f : Bytes} : sizeOfHeader (f.take hdrlen) = sizeOfHeader f := by
  simp [sizeOfHeader, hdrlen, List.drop_take, List.take_take]

theorem isErrType_take {f : Bytes} : isErrType (f.take hdrlen) = isErrType f := by
  simp [isErrType, hdrlen, List.take_take]

theorem sizeOfHeader_append {f rest : Bytes} (h : hdrlen ≤ f.length) :
    sizeOfHeader (f ++ rest) = sizeOfHeader f := by
  rw [← sizeOfHeader_take, List.take_append_of_le_length h, sizeOfHeader_take]

theorem isErrType_append {f rest : Bytes} (h : hdrlen ≤ f.length) :
    isErrType (f ++ rest) = isErrType f := by
  rw [← isErrType_take, List.take_append_of_le_length h, isErrType_take]

theorem sizeOfHeader_take_le {f : Bytes} {n : Nat} (h : hdrlen ≤ n) :
    sizeOfHeader (f.take n) = sizeOfHeader f := by
  rw [← sizeOfHeader_take, List.take_take, Nat.min_eq_left h, sizeOfHeader_take]

theorem receive_flat (rcvBuf : Nat) (s : Stream) :
    (receive rcvBuf s).toFlat = receiveFlat rcvBuf s.flatten := by
  unfold receive receiveFlat
  by_cases hb : rcvBuf < hdrlen
  · simp [hb, Rx.toFlat]
  · simp only [hb, if_false]
    by_cases h8 : s.flatten.length < hdrlen
    · rw [readFull_short h8]
      simp only [h8, if_true, Rx.toFlat, shortErr]
      split <;> rfl
    · obtain ⟨s1, hr, hf⟩ := readFull_ok (n := hdrlen) (s := s) (by omega)
      rw [hr]
      simp only [h8, if_false]
      by_cases hL : sizeOfHeader (s.flatten.take hdrlen) > rcvBuf
      · simp [hL, Rx.toFlat]
      · simp only [hL, if_false]
        by_cases hS : sizeOfHeader (s.flatten.take hdrlen) < hdrlen
        · simp [hS, Rx.toFlat]
        · simp only [hS, if_false]
          by_cases hbody : (s.flatten.drop hdrlen).length < sizeOfHeader (s.flatten.take hdrlen) - hdrlen
          · rw [readFull_short (by rw [hf]; exact hbody)]
            simp only [hbody, if_true, hf, Rx.toFlat, shortErr]
            split <;> rfl
          · obtain ⟨s2, hr2, hf2⟩ := readFull_ok (n := sizeOfHeader (s.flatten.take hdrlen) - hdrlen) (s := s1)
              (by rw [hf]; omega)
            rw [hr2]
            simp only [hbody, if_false, hf]
            split
            · split <;> simp [Rx.toFlat]
            · simp [Rx.toFlat, hf2, hf]

/-- `Receive` on the bytes still to arrive: the frame is their first `MessageSize` bytes -/
theorem receiveFlat_eq (rcvBuf : Nat) (bs : Bytes) : receiveFlat rcvBuf bs =
    if rcvBuf < hdrlen then .stop .panic else
    if bs.length < hdrlen then .stop (shortErr bs) else
    let size := sizeOfHeader bs
    if size > rcvBuf then .stop .tooLarge
    else if size < hdrlen then .stop .tooSmall
    else if bs.length < size then .stop (shortErr (bs.drop hdrlen))
    else if isErrType bs then
      match decodeErr ((bs.take size).drop hdrlen) with
      | none => .stop .errDecode
      | some (c, r) => .stop (.errf c r)
    else .frame (bs.take size) (bs.drop size) := by
  unfold receiveFlat
  simp only [sizeOfHeader_take, isErrType_take]
  by_cases h2 : bs.length < hdrlen
  · simp only [h2, if_true]
  by_cases hS : sizeOfHeader bs < hdrlen
  · simp only [hS, if_true]
  have hsz : hdrlen + (sizeOfHeader bs - hdrlen) = sizeOfHeader bs := by omega
  have hlt : ((bs.drop hdrlen).length < sizeOfHeader bs - hdrlen) = (bs.length < sizeOfHeader bs) := by
    simp only [List.length_drop, eq_iff_iff]; omega
  simp only [hlt, List.drop_take, List.drop_drop, ← List.take_add, hsz]

theorem receive_eq_stop {rcvBuf : Nat} {s : Stream} {o : Stop} :
    receive rcvBuf s = .stop o ↔ receiveFlat rcvBuf s.flatten = .stop o := by
  rw [← receive_flat]
  cases receive rcvBuf s <;> simp [Rx.toFlat]

theorem receive_eq_frame {rcvBuf : Nat} {s : Stream} {f r : Bytes} :
    (∃ rest, receive rcvBuf s = .frame f rest ∧ rest.flatten = r) ↔
      receiveFlat rcvBuf s.flatten = .frame f r := by
  rw [← receive_flat]
  cases receive rcvBuf s <;> simp [Rx.toFlat, and_assoc]

/-! ### frames on the plain byte string -/

/-- a complete frame as `Receive` accepts it with receive buffer `rcvBuf`:
    at least the header, at most the buffer, the size field says its length -/
def completeFrame (rcvBuf : Nat) (f : Bytes) : Prop :=
  hdrlen ≤ f.length ∧ f.length ≤ rcvBuf ∧ sizeOfHeader f = f.length

/-- a frame the peer may send that `Receive` hands to its caller: complete and not of type `ERR` -/
def wellFormed (rcvBuf : Nat) (f : Bytes) : Prop :=
  completeFrame rcvBuf f ∧ isErrType f = false

instance (rcvBuf : Nat) (f : Bytes) : Decidable (completeFrame rcvBuf f) := by
  unfold completeFrame; infer_instance
instance (rcvBuf : Nat) (f : Bytes) : Decidable (wellFormed rcvBuf f) := by
  unfold wellFormed; infer_instance

theorem receiveFlat_complete {rcvBuf : Nat} {f rest : Bytes} (hf : completeFrame rcvBuf f) :
    receiveFlat rcvBuf (f ++ rest) =
      if isErrType f then
        match decodeErr (f.drop hdrlen) with
        | none => .stop .errDecode
        | some (c, r) => .stop (.errf c r)
      else .frame f rest := by
  obtain ⟨h8, hle, hsz⟩ := hf
  rw [receiveFlat_eq]
  grind [sizeOfHeader_append, isErrType_append, List.take_left', List.drop_left']

theorem receiveFlat_wellFormed {rcvBuf : Nat} {f rest : Bytes} (hf : wellFormed rcvBuf f) :
    receiveFlat rcvBuf (f ++ rest) = .frame f rest := by
  rw [receiveFlat_complete hf.1, hf.2]; simp

theorem shortErr_eq (bs : Bytes) : shortErr bs = if bs.length = 0 then .eof else .unexpectedEOF := by
  simp [shortErr, List.length_eq_zero_iff]

section
variable {rcvBuf : Nat} {bs : Bytes}

theorem receiveFlat_panic (h : rcvBuf < hdrlen) : receiveFlat rcvBuf bs = .stop .panic :=
  if_pos h

theorem receiveFlat_short (h8 : hdrlen ≤ rcvBuf) (h : bs.length < hdrlen) :
    receiveFlat rcvBuf bs = .stop (shortErr bs) := by
  rw [receiveFlat_eq, if_neg (Nat.not_lt.mpr h8), if_pos h]

theorem receiveFlat_tooLarge (h8 : hdrlen ≤ rcvBuf) (hl : hdrlen ≤ bs.length) (h : rcvBuf < sizeOfHeader bs) :
    receiveFlat rcvBuf bs = .stop .tooLarge := by
  rw [receiveFlat_eq, if_neg (Nat.not_lt.mpr h8), if_neg (Nat.not_lt.mpr hl)]
  exact if_pos h

theorem receiveFlat_tooSmall (h8 : hdrlen ≤ rcvBuf) (hl : hdrlen ≤ bs.length) (h : sizeOfHeader bs < hdrlen) :
    receiveFlat rcvBuf bs = .stop .tooSmall := by
  rw [receiveFlat_eq, if_neg (Nat.not_lt.mpr h8), if_neg (Nat.not_lt.mpr hl)]
  exact (if_neg (by omega)).trans (if_pos h)

theorem receiveFlat_badSize (h8 : hdrlen ≤ rcvBuf) (hl : hdrlen ≤ bs.length)
    (h : sizeOfHeader bs < hdrlen ∨ rcvBuf < sizeOfHeader bs) :
    receiveFlat rcvBuf bs = .stop (if rcvBuf < sizeOfHeader bs then .tooLarge else .tooSmall) := by
  split
  · next hL => exact receiveFlat_tooLarge h8 hl hL
  · next hL => exact receiveFlat_tooSmall h8 hl (h.resolve_right hL)

theorem receiveFlat_short_body (hl : hdrlen ≤ bs.length) (h1 : hdrlen ≤ sizeOfHeader bs)
    (h2 : sizeOfHeader bs ≤ rcvBuf) (h : bs.length < sizeOfHeader bs) :
    receiveFlat rcvBuf bs = .stop (shortErr (bs.drop hdrlen)) := by
  rw [receiveFlat_eq, if_neg (by omega), if_neg (Nat.not_lt.mpr hl)]
  exact (if_neg (Nat.not_lt.mpr h2)).trans ((if_neg (Nat.not_lt.mpr h1)).trans (if_pos h))

/-- a stream either begins with a complete frame (`receiveFlat_complete` says what happens then)
    or `Receive` stops with one of the four framing errors -/
theorem receiveFlat_cases (h8 : hdrlen ≤ rcvBuf) (bs : Bytes) :
    (∃ f rest, bs = f ++ rest ∧ completeFrame rcvBuf f) ∨
    ∃ o, receiveFlat rcvBuf bs = .stop o ∧ o ∈ [Stop.eof, .unexpectedEOF, .tooLarge, .tooSmall] := by
  have hshort (bs : Bytes) : shortErr bs ∈ [Stop.eof, .unexpectedEOF, .tooLarge, .tooSmall] := by
    unfold shortErr; split <;> simp
  by_cases hl : bs.length < hdrlen
  · exact .inr ⟨_, receiveFlat_short h8 hl, hshort _⟩
  by_cases hS : sizeOfHeader bs < hdrlen ∨ rcvBuf < sizeOfHeader bs
  · exact .inr ⟨_, receiveFlat_badSize h8 (by omega) hS, by split <;> simp⟩
  by_cases hb : bs.length < sizeOfHeader bs
  · exact .inr ⟨_, receiveFlat_short_body (by omega) (by omega) (by omega) hb, hshort _⟩
  refine .inl ⟨bs.take (sizeOfHeader bs), bs.drop (sizeOfHeader bs), (List.take_append_drop _ _).symm, ?_⟩
  grind [completeFrame, sizeOfHeader_take_le, List.length_take]

end

theorem receiveFlat_frame_inv {rcvBuf : Nat} {bs f r : Bytes} (h : receiveFlat rcvBuf bs = .frame f r) :
    bs = f ++ r ∧ wellFormed rcvBuf f := by
  by_cases h8 : hdrlen ≤ rcvBuf
  · rcases receiveFlat_cases h8 bs with ⟨f', r', rfl, hc⟩ | ⟨o, ho, -⟩
    · rw [receiveFlat_complete hc] at h
      split at h
      · split at h <;> cases h
      · rename_i hE
        cases h
        exact ⟨rfl, hc, by simpa using hE⟩
    · rw [ho] at h; cases h
  · rw [receiveFlat_panic (by omega)] at h; cases h

theorem receiveFlat_frame_lt {rcvBuf : Nat} {bs f r : Bytes}
    (h : receiveFlat rcvBuf bs = .frame f r) : r.length < bs.length := by
  obtain ⟨rfl, hc, -⟩ := receiveFlat_frame_inv h
  grind [completeFrame, hdrlen]

theorem receive_frame_lt {rcvBuf : Nat} {s : Stream} {f : Bytes} {r : Stream}
    (h : receive rcvBuf s = .frame f r) : streamLen r < streamLen s :=
  receiveFlat_frame_lt (receive_eq_frame.mp ⟨r, h, rfl⟩)

theorem receiveFlat_ne_panic {rcvBuf : Nat} (h8 : hdrlen ≤ rcvBuf) (bs : Bytes) :
    receiveFlat rcvBuf bs ≠ .stop .panic := by
  rcases receiveFlat_cases h8 bs with ⟨f, r, rfl, hc⟩ | ⟨o, ho, hf⟩
  · rw [receiveFlat_complete hc]
    split
    · split <;> simp
    · simp
  · rw [ho]
    rintro ⟨⟩
    simp at hf

/-- the caller's loop: `Receive` until the first error; delivered frames and the reason to stop -/
def receiveAll (rcvBuf : Nat) (s : Stream) : List Bytes × Stop :=
  match h : receive rcvBuf s with
  | .stop o => ([], o)
  | .frame f rest =>
    let r := receiveAll rcvBuf rest
    (f :: r.1, r.2)
termination_by streamLen s
decreasing_by exact receive_frame_lt h

def receiveAllFlat (rcvBuf : Nat) (bs : Bytes) : List Bytes × Stop :=
  match h : receiveFlat rcvBuf bs with
  | .stop o => ([], o)
  | .frame f rest =>
    let r := receiveAllFlat rcvBuf rest
    (f :: r.1, r.2)
termination_by bs.length
decreasing_by exact receiveFlat_frame_lt h

theorem receiveAllFlat_cons {rcvBuf : Nat} {f rest : Bytes} (hf : wellFormed rcvBuf f) :
    receiveAllFlat rcvBuf (f ++ rest) = (f :: (receiveAllFlat rcvBuf rest).1, (receiveAllFlat rcvBuf rest).2) := by
  rw [receiveAllFlat]
  split <;> simp_all [receiveFlat_wellFormed hf]

theorem receiveAllFlat_stop {rcvBuf : Nat} {bs : Bytes} {o : Stop} (h : receiveFlat rcvBuf bs = .stop o) :
    receiveAllFlat rcvBuf bs = ([], o) := by
  rw [receiveAllFlat]
  split <;> simp_all

/-- segmentation independence of the whole receive loop -/
theorem receiveAll_flat (rcvBuf : Nat) (s : Stream) :
    receiveAll rcvBuf s = receiveAllFlat rcvBuf s.flatten := by
  fun_induction receiveAll rcvBuf s with
  | case1 s o h => rw [receiveAllFlat_stop (receive_eq_stop.mp h)]
  | case2 s f rest h r ih =>
    obtain ⟨hs, hwf⟩ := receiveFlat_frame_inv (receive_eq_frame.mp ⟨rest, h, rfl⟩)
    rw [hs, receiveAllFlat_cons hwf, ← ih]

theorem receiveAllFlat_frames {rcvBuf : Nat} (fs : List Bytes) (tail : Bytes)
    (hfs : ∀ f ∈ fs, wellFormed rcvBuf f) :
    receiveAllFlat rcvBuf (fs.flatten ++ tail) =
      (fs ++ (receiveAllFlat rcvBuf tail).1, (receiveAllFlat rcvBuf tail).2) := by
  induction fs <;> simp_all [receiveAllFlat_cons]

/-- every result "frames `fs`, then outcome `o`" is obtained this way … -/
theorem receiveAll_frames_stop {rcvBuf : Nat} {fs : List Bytes} {tail : Bytes} {o : Stop} {segs : Stream}
    (hfs : ∀ f ∈ fs, wellFormed rcvBuf f) (hstop : receiveFlat rcvBuf tail = .stop o)
    (hseg : segs.flatten = fs.flatten ++ tail) : receiveAll rcvBuf segs = (fs, o) := by
  rw [receiveAll_flat, hseg, receiveAllFlat_frames fs tail hfs, receiveAllFlat_stop hstop, List.append_nil]

/-- … and every result is of this form: well-formed frames, then a tail on which `Receive` stops -/
theorem receiveAllFlat_spec (rcvBuf : Nat) (bs : Bytes) :
    ∃ tail, bs = (receiveAllFlat rcvBuf bs).1.flatten ++ tail ∧
      (∀ f ∈ (receiveAllFlat rcvBuf bs).1, wellFormed rcvBuf f) ∧
      receiveFlat rcvBuf tail = .stop (receiveAllFlat rcvBuf bs).2 := by
  fun_induction receiveAllFlat rcvBuf bs with
  | case1 bs o h => exact ⟨bs, by simp, by simp, h⟩
  | case2 bs f rest h r ih =>
    obtain ⟨tail, h1, h2, h3⟩ := ih
    obtain ⟨rfl, hwf⟩ := receiveFlat_frame_inv h
    exact ⟨tail, by simpa using h1, by simpa [hwf] using h2, h3⟩

end Opcua.Uacp
