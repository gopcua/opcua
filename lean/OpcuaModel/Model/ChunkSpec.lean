import OpcuaModel.Model.Chunk
/-
  Specification side of the secured MessageChunk (C08), written from OPC UA
  Part 6 §6.7.2 (Figure "MessageChunk structure", Tables "Message header",
  "Symmetric / Asymmetric algorithm Security header", "Sequence header",
  "Message footer") independently of the Go code: the chunk is BUILT from its
  parts, front to back, instead of being patched in place.

    MessageHeader     MessageType(3) IsFinal(1) MessageSize(4) SecureChannelId(4)
    SecurityHeader    TokenId(4)  |  PolicyUri, SenderCertificate, ReceiverThumbprint
    --- everything below is encrypted (SignAndEncrypt, and always for asymmetric) ---
    SequenceHeader    SequenceNumber(4) RequestId(4)
    Body
    PaddingSize(1)  Padding(PaddingSize bytes, each = PaddingSize)  [ExtraPaddingSize(1)]
    Signature         over everything before it, computed BEFORE encryption

  MessageSize is the size of the chunk as sent (after encryption).
  ExtraPaddingSize (the high byte of the padding count) is present iff the key
  used to ENCRYPT — the receiver's — is longer than 2048 bits.  The padding count
  makes SequenceHeader ‖ Body ‖ footer a whole number of plaintext blocks; a
  sender may add `k` further whole blocks of padding (`k = 0` is what §6.7.2.5
  computes for the minimum, other stacks also emit a full block).
-/
namespace Opcua.Spec
open Opcua Opcua.Chunk

/-- the parts of one chunk before protection -/
structure Parts where
  msgType : Bytes          -- "MSG" | "CLO" | "OPN"
  isFinal : UInt8          -- 'C' | 'F' | 'A'
  channelId : Nat
  secHeader : Bytes        -- the encoded security header
  seqNum : Nat
  requestId : Nat
  body : Bytes
  deriving Repr, DecidableEq

/-- the algorithm suite of the sending direction -/
structure Suite where
  plainBlock : Nat         -- PlainTextBlockSize
  cipherBlock : Nat        -- CipherTextBlockSize
  sigSize : Nat            -- SignatureSize
  extraPadding : Bool      -- receiver's key longer than 2048 bits
  crypto : Crypto

def header (p : Parts) (messageSize : Nat) : Bytes :=
  p.msgType ++ [p.isFinal] ++ leBytes 4 messageSize ++ leBytes 4 p.channelId

def sequenceHeader (p : Parts) : Bytes := leBytes 4 p.seqNum ++ leBytes 4 p.requestId

/-- padding count: the least count that fills the last plaintext block, plus `k` whole blocks -/
def paddingSize (s : Suite) (bytesToWrite k : Nat) : Nat :=
  let overhead := if s.extraPadding then 2 else 1
  (s.plainBlock - (bytesToWrite + s.sigSize + overhead) % s.plainBlock) % s.plainBlock + k * s.plainBlock

/-- PaddingSize, Padding, [ExtraPaddingSize] -/
def footer (s : Suite) (ps : Nat) : Bytes :=
  [UInt8.ofNat ps] ++ List.replicate ps (UInt8.ofNat ps) ++ (if s.extraPadding then [UInt8.ofNat (ps / 256)] else [])

/-- the secured chunk; `encrypted` = SignAndEncrypt or an asymmetric (OPN)
    chunk, `signed` = Sign or SignAndEncrypt.  `none` = a primitive failed. -/
def secureChunk (s : Suite) (signed encrypted : Bool) (p : Parts) (k : Nat) : Option Bytes :=
  let clear := sequenceHeader p ++ p.body
  if !signed && !encrypted then
    some (header p (12 + p.secHeader.length + clear.length) ++ p.secHeader ++ clear)
  else if !encrypted then
    let hdr := header p (12 + p.secHeader.length + clear.length + s.sigSize) ++ p.secHeader
    match s.crypto.sign (hdr ++ clear) with
    | none => none
    | some sig => some (hdr ++ clear ++ sig)
  else
    let plain := clear ++ footer s (paddingSize s clear.length k)
    let cipherLen := (plain.length + s.sigSize) / s.plainBlock * s.cipherBlock
    let hdr := header p (12 + p.secHeader.length + cipherLen) ++ p.secHeader
    match s.crypto.sign (hdr ++ plain) with
    | none => none
    | some sig =>
      match s.crypto.enc (plain ++ sig) with
      | none => none
      | some c => some (hdr ++ c)

/-- read the padding count from the end of the signed plaintext:
    (count, number of count bytes at the very end) -/
def readFooter (extra : Bool) (sp : Bytes) : Option (Nat × Nat) :=
  if extra then
    if sp.length < 2 then none else
    some ((sp.getD (sp.length - 1) 0).toNat * 256 + (sp.getD (sp.length - 2) 0).toNat, 2)
  else
    if sp.length < 1 then none else some ((sp.getD (sp.length - 1) 0).toNat, 1)

/-- remove PaddingSize ‖ Padding ‖ [ExtraPaddingSize] after checking that
    every padding byte carries the count -/
def stripFooter (extra : Bool) (sp : Bytes) : Option Bytes :=
  match readFooter extra sp with
  | none => none
  | some (ps, fl) =>
    if sp.length < ps + fl then none else
    let pad := (sp.drop (sp.length - (ps + fl))).take (ps + 1)   -- PaddingSize byte + Padding
    if pad.all (fun b => b == UInt8.ofNat ps) then some (sp.take (sp.length - (ps + fl))) else none

/-- what a receiver that follows the specification extracts from a chunk:
    decrypt everything after the security header, split off and verify the
    signature, read the padding count from the end (ExtraPaddingSize iff ITS OWN
    key is longer than 2048 bits), check that every padding byte carries the
    count, and return SequenceHeader ‖ Body.  `hl` = 12 + security header length. -/
def openChunk (s : Suite) (signed encrypted : Bool) (hl : Nat) (w : Bytes) : Option Bytes :=
  if w.length < hl then none else
  if (leVal ((w.drop 4).take 4)) ≠ w.length then none else
  if !signed && !encrypted then some (w.drop hl) else
  let plainOpt : Option Bytes := if encrypted then s.crypto.dec (w.drop hl) else some (w.drop hl)
  match plainOpt with
  | none => none
  | some plain =>
    if plain.length < s.sigSize then none else
    let sig := plain.drop (plain.length - s.sigSize)
    let signedPart := plain.take (plain.length - s.sigSize)
    if s.crypto.verify (w.take hl ++ signedPart) sig = false then none else
    if !encrypted then some signedPart else stripFooter s.extraPadding signedPart

end Opcua.Spec
