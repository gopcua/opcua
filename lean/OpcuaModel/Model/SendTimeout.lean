import OpcuaModel.Gen.SendFacts
/-
  C19 — request timeouts, the pending slot and the receive gate `rcvLocker`,
  as a labelled transition system with a discrete clock (milliseconds).

  Threads: any number of callers (request id = caller index; `open()` for the
  OpenSecureChannel request, `sendRequestWithTimeout` for ordinary ones), the
  dispatcher, the timers.  Shared: `handlers`, the capacity-1 response channel
  of each caller, `rcvLocker.bLock`.

    cSend k tmo opn   handler registered, request written, `timer := NewTimer(tmo + leniency)`, select entered
                      (opn: inside `open()`, whose deferred `rcvLocker.unlock()` is pending)
    cSendFail k       `sendAsyncWithTimeout` failed after the registration: its deferred `popHandler`
                      releases the slot and the call returns the error at once
    cRecv k           `case msg := <-ch`
    cTimeout k hit    `case <-timer.C`: `popHandler(reqID)`          (needs now ≥ deadline)
    cCancel k hit     `case <-ctx.Done()` / `<-s.disconnected`: `popHandler(reqID)`
    cUnlock k         `open()` returns: deferred `s.rcvLocker.unlock()`
    dRecv id opn hit  dispatcher: message for request id arrived (opn: an OpenSecureChannelResponse), `popHandler`
    dRcvLock          dispatcher: `s.rcvLocker.lock()`            (only for an OpenSecureChannelResponse)
    dSend             dispatcher: `ch <- msg`
    dWait             dispatcher: `s.rcvLocker.waitIfLock()` returns (needs the gate open)
    tick d            d ms pass; not possible while some timer is overdue by `slack` ms
                      (the scheduler runs an expired timer's goroutine within `slack`)
-/
namespace Opcua.SendTimeout

def upd {α : Type} (f : Nat → α) (k : Nat) (v : α) : Nat → α := fun j => if j = k then v else f j

@[simp, grind =] theorem upd_apply {α : Type} (f : Nat → α) (k : Nat) (v : α) (j : Nat) :
    upd f k v j = if j = k then v else f j := rfl

/-- `timeoutLeniency` (generated from the source) -/
def leniency : Nat := Gen.SendFacts.timeoutLeniencyMs

inductive How where
  | got | timeout | cancelled | sendError
  deriving DecidableEq, Repr

inductive CPC where
  | idle
  | waiting (deadline : Nat) (opn : Bool)
  /-- returned from the select at time `t`; for `open()` the deferred unlock is still to run -/
  | returned (t : Nat) (how : How) (opn : Bool)
  | finished (t : Nat) (how : How)
  deriving DecidableEq, Repr

inductive DPC where
  | recv
  | popped (k : Nat) (opn : Bool)
  | lockedD (k : Nat)
  | sent (k : Nat) (opn : Bool)
  deriving DecidableEq, Repr

structure St where
  n : Nat
  slack : Nat
  now : Nat
  handlers : Nat → Bool
  box : Nat → Bool
  cpc : Nat → CPC
  /-- ghost: when caller k entered its select, and with which timeout -/
  t0 : Nat → Nat
  tmo : Nat → Nat
  dpc : DPC
  rcvLocked : Bool
  /-- ghost: the open() call on whose behalf the dispatcher locked the gate -/
  lockFor : Option Nat
  /-- ghost: responses that reached a caller's channel / were dropped -/
  delivered : Nat
  dropped : Nat

def init (n slack : Nat) : St :=
  { n := n, slack := slack, now := 0, handlers := fun _ => false, box := fun _ => false, cpc := fun _ => .idle,
    t0 := fun _ => 0, tmo := fun _ => 0, dpc := .recv, rcvLocked := false, lockFor := none, delivered := 0, dropped := 0 }

inductive Label where
  | cSend (k tmo : Nat) (opn : Bool)
  | cSendFail (k : Nat)
  | cRecv (k : Nat)
  | cTimeout (k : Nat) (hit : Bool)
  | cCancel (k : Nat) (hit : Bool)
  | cUnlock (k : Nat)
  | dRecv (id : Nat) (opn : Bool) (hit : Bool)
  | dRcvLock
  | dSend
  | dWait
  | tick (d : Nat)
  deriving DecidableEq, Repr

/-- caller k's timer is overdue by the slack or more -/
def overdue (s : St) (k : Nat) : Bool :=
  match s.cpc k with
  | .waiting dl _ => decide (dl + s.slack ≤ s.now)
  | _ => false

/-- an `open()` is in flight (holds `openingMu`) -/
def openBusy (s : St) (k : Nat) : Bool :=
  match s.cpc k with
  | .waiting _ true => true
  | .returned _ _ true => true
  | _ => false

def anyBelow (n : Nat) (p : Nat → Bool) : Bool := (List.range n).any p

def step? (s : St) : Label → Option St
  | .cSend k tmo opn =>
    if k < s.n ∧ s.cpc k = .idle ∧ (opn = true → anyBelow s.n (openBusy s) = false) then
      some { s with handlers := upd s.handlers k true, box := upd s.box k false,
                    cpc := upd s.cpc k (.waiting (s.now + tmo + leniency) opn), t0 := upd s.t0 k s.now, tmo := upd s.tmo k tmo }
    else none
  | .cSendFail k =>
    if k < s.n ∧ s.cpc k = .idle then
      some { s with cpc := upd s.cpc k (.finished s.now .sendError), t0 := upd s.t0 k s.now, tmo := upd s.tmo k 0 }
    else none
  | .cRecv k =>
    match s.cpc k with
    | .waiting _ opn =>
      if s.box k then
        some { s with box := upd s.box k false,
                      cpc := upd s.cpc k (if opn then .returned s.now .got true else .finished s.now .got) }
      else none
    | _ => none
  | .cTimeout k hit =>
    match s.cpc k with
    | .waiting dl opn =>
      if dl ≤ s.now ∧ hit = s.handlers k then
        some { s with handlers := upd s.handlers k false,
                      cpc := upd s.cpc k (if opn then .returned s.now .timeout true else .finished s.now .timeout) }
      else none
    | _ => none
  | .cCancel k hit =>
    match s.cpc k with
    | .waiting _ opn =>
      if hit = s.handlers k then
        some { s with handlers := upd s.handlers k false,
                      cpc := upd s.cpc k (if opn then .returned s.now .cancelled true else .finished s.now .cancelled) }
      else none
    | _ => none
  | .cUnlock k =>
    match s.cpc k with
    | .returned t how true => some { s with rcvLocked := false, lockFor := none, cpc := upd s.cpc k (.finished t how) }
    | _ => none
  | .dRecv id opn hit =>
    match s.dpc with
    | .recv =>
      if hit = s.handlers id then
        if hit then some { s with handlers := upd s.handlers id false, dpc := .popped id opn }
        else some { s with dropped := s.dropped + 1 }
      else none
    | _ => none
  | .dRcvLock =>
    match s.dpc with
    | .popped k true => some { s with dpc := .lockedD k, rcvLocked := true, lockFor := some k }
    | _ => none
  | .dSend =>
    match s.dpc with
    | .popped k false => some { s with dpc := .sent k false, box := upd s.box k true, delivered := s.delivered + 1 }
    | .lockedD k => some { s with dpc := .sent k true, box := upd s.box k true, delivered := s.delivered + 1 }
    | _ => none
  | .dWait =>
    match s.dpc with
    | .sent _ _ => if s.rcvLocked then none else some { s with dpc := .recv }
    | _ => none
  | .tick d =>
    if anyBelow s.n (overdue { s with now := s.now + d }) then none else some { s with now := s.now + d }

def run? (s : St) : List Label → Option St
  | [] => some s
  | l :: ls => match step? s l with
    | some s' => run? s' ls
    | none => none

inductive Reachable : St → Prop where
  | init (n slack : Nat) : Reachable (init n slack)
  | step {s s' : St} (l : Label) : Reachable s → step? s l = some s' → Reachable s'

theorem reachable_run {s s' : St} (tr : List Label) (h : Reachable s) (hr : run? s tr = some s') : Reachable s' := by
  induction tr generalizing s with
  | nil => exact Option.some.inj hr ▸ h
  | cons l ls ih =>
    cases h1 : step? s l with
    | none => simp [run?, h1] at hr
    | some s1 => exact ih (.step l h h1) (by simpa [run?, h1] using hr)

theorem anyBelow_false {n : Nat} {p : Nat → Bool} (h : anyBelow n p = false) (k : Nat) (hk : k < n) : p k = false := by
  simpa using List.any_eq_false.1 h k (List.mem_range.2 hk)

def DPC.atGate : DPC → Bool
  | .sent _ _ => true
  | _ => false

/-- the dispatcher waits at the gate and nobody is going to open it -/
def Wedged (s : St) : Prop :=
  s.dpc.atGate = true ∧ s.rcvLocked = true ∧ anyBelow s.n (openBusy s) = false

instance (s : St) : Decidable (Wedged s) := by unfold Wedged; exact inferInstance

/-- Guard (decidable): an `open()` does not leave its select by timeout or
    cancellation while the dispatcher sits between `popHandler` and
    `rcvLocker.lock()` for its response. -/
def Guard (s : St) : Label → Prop
  | .cTimeout k _ => s.dpc ≠ .popped k true
  | .cCancel k _ => s.dpc ≠ .popped k true
  | _ => True

instance (s : St) (l : Label) : Decidable (Guard s l) := by
  cases l <;> simp only [Guard] <;> exact inferInstance

inductive ReachableG : St → Prop where
  | init (n slack : Nat) : ReachableG (init n slack)
  | step {s s' : St} (l : Label) : ReachableG s → Guard s l → step? s l = some s' → ReachableG s'

end Opcua.SendTimeout
