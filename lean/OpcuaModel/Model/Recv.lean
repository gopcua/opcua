import OpcuaModel.Base.Bytes
import OpcuaModel.Base.Lists
/-
  Model of the secure-channel receive path of gopcua (`uasc/secure_channel.go`)
  on the level of *decrypted chunks*: what `SecureChannel.Receive` does with the
  `*MessageChunk` that `readChunk` hands it.  Shared by C12 (reassembly), C10
  (replay), C13 (retained memory) — the raw-frame layer of C13 and the instance
  table of C17 are put in front of it in `Model/RecvRaw.lean` / `Model/RecvTok.lean`.

  The functions mirror the Go statements one by one, defects included:

    switch hdr.ChunkType {
    case 'A': delete(s.chunks, reqID); decode MessageAbort …
    case 'C': s.chunks[reqID] = append(s.chunks[reqID], chunk)
              if n := len(s.chunks[reqID]); uint32(n) > s.c.MaxChunkCount() { delete …; too many chunks }
              continue
    }
    all := append(s.chunks[reqID], chunk); delete(s.chunks, reqID)
    b, err := mergeChunks(all)
    if uint32(len(b)) > s.c.MaxMessageSize() { message too large }
    (both comparisons possibly guarded by `limit != 0 &&`, see `Cfg.chunk0/size0`)
    _, body, err := ua.DecodeService(b)

  `ua.DecodeService` and everything after it is outside this model: the result
  `Out.merged req b` says "these bytes are handed to the decoder for request id
  `req`" (the runners apply the real decoder to them).  Note that *every* chunk
  type other than 'A' and 'C' is treated as final by the code.
-/
namespace Opcua.Recv
open Opcua

/-- a chunk as `Receive` sees it after `readChunk`: chunk-type byte, the two
    fields of the (decrypted) sequence header and the payload -/
structure Chunk where
  ct : Nat
  seq : Nat
  req : Nat
  data : Bytes
  deriving Repr, DecidableEq

def ctA : Nat := 65
def ctC : Nat := 67
def ctF : Nat := 70

/-- the two limits `Receive` reads from the connection (`s.c.MaxChunkCount()`,
    `s.c.MaxMessageSize()`) -/
structure Cfg where
  maxChunkCount : Nat
  maxMessageSize : Nat
  /-- the chunk-count check is guarded by `MaxChunkCount() != 0` (0 = no limit);
      read from the source by the generator (`Gen.RecvFacts`) -/
  chunk0 : Bool := false
  /-- the same for the message-size check -/
  size0 : Bool := false
  deriving Repr, DecidableEq

/-- `[max != 0 &&] n > max` — the form of both limit checks of `Receive` -/
def exceeds (zeroUnlimited : Bool) (n max : Nat) : Bool :=
  (!zeroUnlimited || max != 0) && decide (n > max)

theorem exceeds_eq_false {z : Bool} {n max : Nat} :
    exceeds z n max = false ↔ (z = true ∧ max = 0) ∨ n ≤ max := by
  cases z <;> simp [exceeds] <;> omega

theorem exceeds_mono {z : Bool} {n m max : Nat} (h : exceeds z n max = false) (hm : m ≤ n) :
    exceeds z m max = false :=
  exceeds_eq_false.mpr ((exceeds_eq_false.mp h).imp_right (Nat.le_trans hm))

/-- `s.chunks : map[uint32][]*MessageChunk`; an absent key reads as `nil` -/
abbrev Bufs := List (Nat × List Chunk)

def Bufs.get (b : Bufs) (r : Nat) : List Chunk :=
  match b.find? (fun e => e.1 == r) with
  | some e => e.2
  | none => []

/-- `delete(s.chunks, r)` -/
def Bufs.del (b : Bufs) (r : Nat) : Bufs := b.filter (fun e => !(e.1 == r))

/-- `s.chunks[r] = v` -/
def Bufs.set (b : Bufs) (r : Nat) (v : List Chunk) : Bufs := (r, v) :: b.del r

/-- what one pass through the loop body of `Receive` produces -/
inductive Out where
  /-- `continue`: nothing is returned, the next chunk is read -/
  | cont
  /-- a well-formed abort chunk: `MessageBody{RequestID, Err: StatusCode(code)}` -/
  | abort (req code : Nat)
  /-- an abort chunk whose body does not decode: `Err = BadDecodingError` -/
  | abortBad (req : Nat)
  /-- `too many chunks: n > MaxChunkCount` -/
  | tooMany (req n : Nat)
  /-- `message too large` -/
  | tooLarge (req len : Nat)
  /-- the merged bytes are handed to `ua.DecodeService` -/
  | merged (req : Nat) (body : Bytes)
  deriving Repr, DecidableEq

/-- `MessageAbort.Decode`: `ReadUint32` error code, `ReadString` reason
    (`ReadBytes`: length 0 and 0xffffffff read as nil, a length beyond the
    buffer is an error).  Returns the error code. -/
def decodeAbort (d : Bytes) : Option Nat :=
  if d.length < 4 then none else
  let code := leVal (d.take 4)
  let r := d.drop 4
  if r.length < 4 then none else
  let n := leVal (r.take 4)
  if n = 0 ∨ n = 4294967295 then some code
  else if n > r.length - 4 then none else some code

/-- the loop of `mergeChunks` from the second chunk on: `seqnr` is the last
    sequence number kept; a chunk whose number equals it is skipped as "duplicate" -/
def mergeLoop : Nat → List Chunk → Bytes
  | _, [] => []
  | seqnr, c :: cs =>
    if c.seq = seqnr then mergeLoop seqnr cs
    else c.data ++ mergeLoop c.seq cs

/-- `mergeChunks` (it never returns an error): a single chunk is returned as it
    is; otherwise `for i, c := range chunks { if i > 0 && c.seq == seqnr { continue }; … }`
    — the first chunk is always kept (repair of C12.merge-drops-seq0) -/
def mergeChunks : List Chunk → Bytes
  | [] => []
  | [c] => c.data
  | c :: cs => c.data ++ mergeLoop c.seq cs

/-- the part of `Receive` after `readChunk` for one request id, on the buffer
    `buf = s.chunks[reqID]`: new buffer and result -/
def step1 (cfg : Cfg) (buf : List Chunk) (c : Chunk) : List Chunk × Out :=
  if c.ct = ctA then
    ([], match decodeAbort c.data with
         | some code => .abort c.req code
         | none => .abortBad c.req)
  else if c.ct = ctC then
    let buf' := buf ++ [c]
    if exceeds cfg.chunk0 buf'.length cfg.maxChunkCount then ([], .tooMany c.req buf'.length)
    else (buf', .cont)
  else
    let b := mergeChunks (buf ++ [c])
    if exceeds cfg.size0 b.length cfg.maxMessageSize then ([], .tooLarge c.req b.length)
    else ([], .merged c.req b)

/-- one pass through the loop body of `Receive` on the whole table -/
def step (cfg : Cfg) (bufs : Bufs) (c : Chunk) : Bufs × Out :=
  if c.ct = ctA then
    let bufs' := bufs.del c.req
    (bufs', match decodeAbort c.data with
            | some code => .abort c.req code
            | none => .abortBad c.req)
  else if c.ct = ctC then
    let bufs' := bufs.set c.req (bufs.get c.req ++ [c])
    let n := (bufs'.get c.req).length
    if exceeds cfg.chunk0 n cfg.maxChunkCount then (bufs'.del c.req, .tooMany c.req n)
    else (bufs', .cont)
  else
    let all := bufs.get c.req ++ [c]
    let bufs' := bufs.del c.req
    let b := mergeChunks all
    if exceeds cfg.size0 b.length cfg.maxMessageSize then (bufs', .tooLarge c.req b.length)
    else (bufs', .merged c.req b)

/-- the results of feeding a chunk stream, one per chunk -/
def runOuts (cfg : Cfg) : Bufs → List Chunk → List Out
  | _, [] => []
  | bufs, c :: cs => (step cfg bufs c).2 :: runOuts cfg (step cfg bufs c).1 cs

def runFinal (cfg : Cfg) : Bufs → List Chunk → Bufs
  | bufs, [] => bufs
  | bufs, c :: cs => runFinal cfg (step cfg bufs c).1 cs

/-- what the callers of `Receive` get: every result except `continue` -/
def returned (outs : List Out) : List Out := outs.filter (fun o => !(o == .cont))

/-- the byte strings handed to the service decoder, with their request id -/
def delivered (outs : List Out) : List (Nat × Bytes) :=
  outs.filterMap fun
    | .merged r b => some (r, b)
    | _ => none

/-! ### retained memory (C13): number of map entries, of retained chunks, of retained payload bytes -/

def Bufs.entries (b : Bufs) : Nat := b.length
def Bufs.nchunks (b : Bufs) : Nat := (b.map fun e => e.2.length).sum
def chunksBytes (l : List Chunk) : Nat := (l.map fun c => c.data.length).sum
def Bufs.held (b : Bufs) : Nat := (b.map fun e => chunksBytes e.2).sum

@[simp] theorem Bufs.get_del_same (b : Bufs) (r : Nat) : (b.del r).get r = [] := by
  unfold Bufs.get Bufs.del
  rw [Lists.find_filter_same]

@[simp] theorem Bufs.get_del_other (b : Bufs) {r r' : Nat} (h : r' ≠ r) : (b.del r).get r' = b.get r' := by
  unfold Bufs.get Bufs.del
  rw [Lists.find_filter_other b h]

@[simp] theorem Bufs.get_set_same (b : Bufs) (r : Nat) (v : List Chunk) : (b.set r v).get r = v := by
  simp [Bufs.get, Bufs.set]

@[simp] theorem Bufs.get_set_other (b : Bufs) {r r' : Nat} (v : List Chunk) (h : r' ≠ r) :
    (b.set r v).get r' = b.get r' := by
  have h' : (r == r') = false := by simpa using fun e => h (Eq.symm e)
  unfold Bufs.get Bufs.set Bufs.del
  rw [List.find?_cons, h', Lists.find_filter_other b h]

theorem Bufs.get_all {P : List Chunk → Prop} (b : Bufs) (r : Nat) (hnil : P []) (h : ∀ e ∈ b, P e.2) :
    P (b.get r) := by
  unfold Bufs.get
  cases hf : b.find? (fun e => e.1 == r) with
  | none => exact hnil
  | some e => exact h e (List.mem_of_find?_eq_some hf)

@[simp] theorem Bufs.del_set (b : Bufs) (r : Nat) (v : List Chunk) : (b.set r v).del r = b.del r := by
  simp [Bufs.set, Bufs.del, List.filter_filter]

/-! ### `step1` by chunk type, and `step` as `step1` on one entry of the table -/

theorem step1_abort (cfg : Cfg) (buf : List Chunk) {c : Chunk} (h : c.ct = ctA) :
    step1 cfg buf c = ([], match decodeAbort c.data with
                           | some code => .abort c.req code
                           | none => .abortBad c.req) := if_pos h

theorem step1_inter (cfg : Cfg) (buf : List Chunk) {c : Chunk} (h : c.ct = ctC) :
    step1 cfg buf c = if exceeds cfg.chunk0 (buf ++ [c]).length cfg.maxChunkCount
      then ([], .tooMany c.req (buf ++ [c]).length) else (buf ++ [c], .cont) := by
  have hA : ¬ c.ct = ctA := by rw [h]; decide
  simp only [step1, if_neg hA, if_pos h]

theorem step1_final (cfg : Cfg) (buf : List Chunk) {c : Chunk} (hA : c.ct ≠ ctA) (hC : c.ct ≠ ctC) :
    step1 cfg buf c = ([], if exceeds cfg.size0 (mergeChunks (buf ++ [c])).length cfg.maxMessageSize
      then .tooLarge c.req (mergeChunks (buf ++ [c])).length
      else .merged c.req (mergeChunks (buf ++ [c]))) := by
  simp only [step1, if_neg hA, if_neg hC]
  split <;> rfl

/-- a buffer is left behind only by an intermediate chunk within the limit, answered with `continue` -/
theorem step1_fst (cfg : Cfg) (buf : List Chunk) (c : Chunk) :
    (step1 cfg buf c).1 = [] ∨
    (step1 cfg buf c = (buf ++ [c], .cont) ∧ c.ct = ctC ∧
      exceeds cfg.chunk0 (buf ++ [c]).length cfg.maxChunkCount = false) := by
  by_cases hA : c.ct = ctA
  · rw [step1_abort cfg buf hA]; exact .inl rfl
  · by_cases hC : c.ct = ctC
    · rw [step1_inter cfg buf hC]
      cases he : exceeds cfg.chunk0 (buf ++ [c]).length cfg.maxChunkCount
      · exact .inr ⟨rfl, hC, rfl⟩
      · exact .inl rfl
    · rw [step1_final cfg buf hA hC]; exact .inl rfl

/-- `step` is `step1` on the buffer of the chunk's request id, written back -/
theorem step_eq (cfg : Cfg) (bufs : Bufs) (c : Chunk) :
    step cfg bufs c =
      (if (step1 cfg (bufs.get c.req) c).1 = [] then bufs.del c.req
       else bufs.set c.req (step1 cfg (bufs.get c.req) c).1,
       (step1 cfg (bufs.get c.req) c).2) := by
  unfold step
  by_cases hA : c.ct = ctA
  · rw [step1_abort cfg _ hA, if_pos hA, if_pos rfl]
  · by_cases hC : c.ct = ctC
    · rw [step1_inter cfg _ hC, if_neg hA, if_pos hC]
      simp only [Bufs.get_set_same]
      cases exceeds cfg.chunk0 (bufs.get c.req ++ [c]).length cfg.maxChunkCount <;> simp
    · rw [step1_final cfg _ hA hC, if_neg hA, if_neg hC, if_pos rfl]
      simp only []  -- unfolds the `let`s of `step`
      cases exceeds cfg.size0 (mergeChunks (bufs.get c.req ++ [c])).length cfg.maxMessageSize <;> rfl

theorem step_snd (cfg : Cfg) (bufs : Bufs) (c : Chunk) :
    (step cfg bufs c).2 = (step1 cfg (bufs.get c.req) c).2 := by rw [step_eq]

@[simp] theorem step_get_same (cfg : Cfg) (bufs : Bufs) (c : Chunk) :
    (step cfg bufs c).1.get c.req = (step1 cfg (bufs.get c.req) c).1 := by
  rw [step_eq]
  split
  · rename_i h; rw [h]; exact Bufs.get_del_same ..
  · exact Bufs.get_set_same ..

@[simp] theorem step_get_other (cfg : Cfg) (bufs : Bufs) (c : Chunk) {r : Nat} (h : r ≠ c.req) :
    (step cfg bufs c).1.get r = bufs.get r := by
  rw [step_eq]
  split
  · exact Bufs.get_del_other _ h
  · exact Bufs.get_set_other _ _ h

/-- every entry of the new table is an old one, or the buffer an intermediate chunk was appended to -/
theorem mem_step {cfg : Cfg} {bufs : Bufs} {c : Chunk} {e : Nat × List Chunk} (he : e ∈ (step cfg bufs c).1) :
    e ∈ bufs ∨ (e = (c.req, bufs.get c.req ++ [c]) ∧ c.ct = ctC ∧
      exceeds cfg.chunk0 (bufs.get c.req ++ [c]).length cfg.maxChunkCount = false) := by
  rw [step_eq] at he
  rcases step1_fst cfg (bufs.get c.req) c with h | ⟨h, hC, hx⟩
  · rw [if_pos h] at he
    exact .inl (List.mem_filter.mp he).1
  · rw [h, if_neg (by simp)] at he
    rcases List.mem_cons.mp he with he | he
    · exact .inr ⟨he, hC, hx⟩
    · exact .inl (List.mem_filter.mp he).1

/-! ### retained memory after a chunk stream (namespace `Raw`: the names C13 and `Model/RecvRaw.lean` use) -/

namespace Raw

def Bounded (max : Nat) (b : Bufs) : Prop := ∀ e ∈ b, e.2.length ≤ max

theorem nchunks_le (max : Nat) (b : Bufs) (h : Bounded max b) : b.nchunks ≤ max * b.entries :=
  Lists.sum_map_le _ max b h

/-- the chunk-count check is in force: not disabled by a zero limit -/
def limitActive (cfg : Cfg) : Prop := cfg.chunk0 = false ∨ cfg.maxChunkCount ≠ 0

theorem exceeds_false_le {z : Bool} {n max : Nat} (hact : z = false ∨ max ≠ 0)
    (h : exceeds z n max = false) : n ≤ max :=
  (exceeds_eq_false.mp h).resolve_left fun ⟨hz, h0⟩ => hact.elim (by simp [hz]) (· h0)

/-- A property of buffered lists that holds of the empty list and survives appending a chunk of the
    stream within the chunk limit holds of every list in the table after the stream: the only list a
    step adds to the table is the buffer of an intermediate chunk that passed the limit check
    (`mem_step`). -/
theorem run_all {P : List Chunk → Prop} (cfg : Cfg) (hnil : P []) (s : List Chunk)
    (happ : ∀ l, ∀ c ∈ s, P l → exceeds cfg.chunk0 (l ++ [c]).length cfg.maxChunkCount = false → P (l ++ [c]))
    (b : Bufs) (h : ∀ e ∈ b, P e.2) : ∀ e ∈ runFinal cfg b s, P e.2 := by
  induction s generalizing b with
  | nil => exact h
  | cons c t ih =>
    refine ih (fun l x hx => happ l x (List.mem_cons_of_mem _ hx)) _ (fun e he => ?_)
    rcases mem_step he with he | ⟨rfl, _, hx⟩
    · exact h e he
    · exact happ _ c (List.mem_cons_self ..) (b.get_all c.req hnil h) hx

theorem run_bounded (cfg : Cfg) (hact : limitActive cfg) (b : Bufs) (s : List Chunk)
    (h : Bounded cfg.maxChunkCount b) : Bounded cfg.maxChunkCount (runFinal cfg b s) :=
  run_all (P := fun l => l.length ≤ cfg.maxChunkCount) cfg (Nat.zero_le _) s
    (fun _ _ _ _ hx => exceeds_false_le hact hx) b h

def BoundedB (B max : Nat) (b : Bufs) : Prop :=
  ∀ e ∈ b, e.2.length ≤ max ∧ ∀ c ∈ e.2, c.data.length ≤ B

theorem chunksBytes_le (B : Nat) (l : List Chunk) (h : ∀ c ∈ l, c.data.length ≤ B) :
    chunksBytes l ≤ B * l.length :=
  Lists.sum_map_le _ B l h

theorem held_le (B max : Nat) (b : Bufs) (h : BoundedB B max b) : b.held ≤ B * max * b.entries :=
  Lists.sum_map_le _ (B * max) b fun e he =>
    Nat.le_trans (chunksBytes_le B e.2 (h e he).2) (Nat.mul_le_mul_left B (h e he).1)

theorem run_boundedB (B : Nat) (cfg : Cfg) (hact : limitActive cfg) (b : Bufs) (s : List Chunk)
    (hs : ∀ c ∈ s, c.data.length ≤ B) (h : BoundedB B cfg.maxChunkCount b) :
    BoundedB B cfg.maxChunkCount (runFinal cfg b s) := by
  refine run_all (P := fun l => l.length ≤ cfg.maxChunkCount ∧ ∀ c ∈ l, c.data.length ≤ B) cfg
    ⟨Nat.zero_le _, fun _ h => nomatch h⟩ s (fun l c hc hl hx => ⟨exceeds_false_le hact hx, fun x hx => ?_⟩) b h
  rcases List.mem_append.mp hx with hx | hx
  · exact hl.2 x hx
  · rw [List.mem_singleton.mp hx]; exact hs c hc

theorem step_fresh (cfg : Cfg) (b : Bufs) (c : Chunk) (hC : c.ct = ctC)
    (hfresh : ∀ e ∈ b, e.1 ≠ c.req) (hone : exceeds cfg.chunk0 1 cfg.maxChunkCount = false) :
    (step cfg b c).1 = (c.req, [c]) :: b := by
  have hget : b.get c.req = [] := by
    rw [Bufs.get, List.find?_eq_none.mpr fun e he => by simpa using hfresh e he]
  have hdel : b.del c.req = b := List.filter_eq_self.mpr fun e he => by simpa using hfresh e he
  rw [step_eq, hget, step1_inter cfg _ hC]
  simp [hone, Bufs.set, hdel]

theorem run_fresh_ids (cfg : Cfg) (hone : exceeds cfg.chunk0 1 cfg.maxChunkCount = false)
    (s : List Chunk) (hC : ∀ c ∈ s, c.ct = ctC) (hnd : (s.map (·.req)).Nodup) (b : Bufs)
    (hdis : ∀ e ∈ b, ∀ c ∈ s, e.1 ≠ c.req) :
    (runFinal cfg b s).entries = s.length + b.entries := by
  induction s generalizing b with
  | nil => simp [runFinal]
  | cons c t ih =>
    rw [List.map_cons, List.nodup_cons] at hnd
    rw [runFinal, step_fresh cfg b c (hC c (List.mem_cons_self ..)) (fun e he => hdis e he c (List.mem_cons_self ..)) hone,
      ih (fun x hx => hC x (List.mem_cons_of_mem _ hx)) hnd.2]
    · simp [Bufs.entries]; omega
    · intro e he x hx
      rcases List.mem_cons.mp he with rfl | he
      · exact fun h => hnd.1 (List.mem_map.mpr ⟨x, hx, h.symm⟩)
      · exact hdis e he x (List.mem_cons_of_mem _ hx)

end Raw

/-- no chunk is skipped: the first number differs from `prev` and neighbours differ -/
def seqChain : Nat → List Nat → Prop
  | _, [] => True
  | prev, s :: r => s ≠ prev ∧ seqChain s r

instance : (prev : Nat) → (l : List Nat) → Decidable (seqChain prev l)
  | _, [] => isTrue trivial
  | prev, s :: r => by
      unfold seqChain
      have := instDecidableSeqChain s r
      infer_instance

def allData (cs : List Chunk) : Bytes := (cs.map (·.data)).flatten

theorem mergeLoop_all (prev : Nat) (cs : List Chunk) (h : seqChain prev (cs.map (·.seq))) :
    mergeLoop prev cs = allData cs := by
  induction cs generalizing prev with
  | nil => rfl
  | cons c t ih =>
    simp only [List.map, seqChain] at h
    simp [mergeLoop, h.1, allData, ih c.seq h.2]

def adjDistinct : List Nat → Prop
  | [] => True
  | a :: r => seqChain a r

instance : (l : List Nat) → Decidable (adjDistinct l)
  | [] => isTrue trivial
  | a :: r => by unfold adjDistinct; infer_instance

/-- the single-chunk shortcut of `mergeChunks` is no special case -/
theorem mergeChunks_cons (c : Chunk) (cs : List Chunk) :
    mergeChunks (c :: cs) = c.data ++ mergeLoop c.seq cs := by
  cases cs <;> simp [mergeChunks, mergeLoop]

/-- `mergeChunks` concatenates all payloads when no chunk repeats the number of
    its predecessor -/
theorem mergeChunks_all (cs : List Chunk) (h : adjDistinct (cs.map (·.seq))) :
    mergeChunks cs = allData cs := by
  cases cs with
  | nil => rfl
  | cons c t => rw [mergeChunks_cons, mergeLoop_all c.seq t h]; simp [allData]

/-- the duplicate filter: a chunk that repeats the number of its predecessor is skipped -/
theorem mergeLoop_skip (prev : Nat) (pre : List Chunk) (c d : Chunk) (post : List Chunk) (h : d.seq = c.seq) :
    mergeLoop prev (pre ++ c :: d :: post) = mergeLoop prev (pre ++ c :: post) := by
  induction pre generalizing prev with
  | nil => by_cases hc : c.seq = prev <;> simp [mergeLoop, hc, h]
  | cons x r ih => simp only [List.cons_append, mergeLoop, ih]

theorem mergeChunks_skip (pre : List Chunk) (c d : Chunk) (post : List Chunk) (h : d.seq = c.seq) :
    mergeChunks (pre ++ c :: d :: post) = mergeChunks (pre ++ c :: post) := by
  cases pre with
  | nil => simp [mergeChunks_cons, mergeLoop, h]
  | cons x r => simp only [List.cons_append, mergeChunks_cons, mergeLoop_skip x.seq r c d post h]

theorem runOuts_append (cfg : Cfg) (bufs : Bufs) (a b : List Chunk) :
    runOuts cfg bufs (a ++ b) = runOuts cfg bufs a ++ runOuts cfg (runFinal cfg bufs a) b := by
  induction a generalizing bufs with
  | nil => rfl
  | cons c t ih => simp [runOuts, runFinal, ih]

theorem runFinal_append (cfg : Cfg) (bufs : Bufs) (a b : List Chunk) :
    runFinal cfg bufs (a ++ b) = runFinal cfg (runFinal cfg bufs a) b := by
  induction a generalizing bufs with
  | nil => rfl
  | cons c t ih => simp [runFinal, ih]

theorem delivered_append (a b : List Out) : delivered (a ++ b) = delivered a ++ delivered b := by
  simp [delivered, List.filterMap_append]

/-! ### secured frames (C10)

  `readChunk` turns a frame into a chunk by `verifyAndDecrypt` (which tries
  the instances stored for the frame's channel id) and then decodes the
  sequence header *without comparing it with anything*: the channel keeps no
  receive-side sequence state.  So what a frame opens to is a function of the
  frame and of the key material alone — `unwrap` — and not of the history.
  (That this is how the code behaves is what the C10 correspondence run
  checks on real Sign / SignAndEncrypt channels.) -/

/-- one frame through `readChunk` + the loop body of `Receive`; `none` = the
    frame is rejected by `readChunk` (`Receive` returns that error) -/
def stepSealed (unwrap : Bytes → Option Chunk) (cfg : Cfg) (bufs : Bufs) (frame : Bytes) : Bufs × Option Out :=
  match unwrap frame with
  | none => (bufs, none)
  | some c => ((step cfg bufs c).1, some (step cfg bufs c).2)

def runSealed (unwrap : Bytes → Option Chunk) (cfg : Cfg) : Bufs → List Bytes → List (Option Out)
  | _, [] => []
  | bufs, f :: fs => (stepSealed unwrap cfg bufs f).2 :: runSealed unwrap cfg (stepSealed unwrap cfg bufs f).1 fs

def deliveredSealed (outs : List (Option Out)) : List (Nat × Bytes) :=
  delivered (outs.filterMap id)

end Opcua.Recv
