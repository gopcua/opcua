import OpcuaModel.Base.Bytes
import OpcuaModel.Base.Lists
import OpcuaModel.Gen.SecPolicy
/-
  Model of `opcua.SelectEndpoint` (client.go) and `ua.FormatSecurityPolicyURI`
  (ua/enums.go), statement by statement.  Go strings are byte strings
  (`Bytes`); `SecurityLevel` is a byte, `MessageSecurityMode` a uint32 — both
  are only compared, so `Nat` carries them.

      func SelectEndpoint(endpoints, policy, mode) {
          if len(endpoints) == 0 { return nil, err }
          sort.Sort(sort.Reverse(bySecurityLevel(endpoints)))
          policy = ua.FormatSecurityPolicyURI(policy)
          if policy == "" && mode == Invalid { return endpoints[0], nil }
          for _, p := range endpoints {
              if policy == "" && p.SecurityMode == mode { return p, nil }
              if p.SecurityPolicyURI == policy && mode == Invalid { return p, nil }
              if p.SecurityPolicyURI == policy && p.SecurityMode == mode { return p, nil }
          }
          return nil, err
      }

  `sort.Sort` is not stable and its algorithm is not part of its contract: the
  model is parametric in the sorted list — ANY permutation of the input whose
  levels are non-increasing — and the theorems quantify over all of them.
-/
namespace Opcua.EndpointSel
open Opcua

structure Endpoint where
  uri : Bytes
  mode : Nat
  level : Nat
  deriving DecidableEq, Repr

/-- `ua.FormatSecurityPolicyURI` over an arbitrary table / prefix -/
def formatWith (tbl : List (Bytes × Bytes)) (pre : Bytes) (policy : Bytes) : Bytes :=
  if policy = [] then []
  else match tbl.lookup policy with
    | some u => u
    | none => if ¬ pre.isPrefixOf policy then pre ++ policy else policy

/-- `ua.FormatSecurityPolicyURI` with the table and prefix generated from package `ua` -/
def formatPolicy (policy : Bytes) : Bytes :=
  formatWith Gen.secPolicyTable Gen.secPolicyPrefix policy

/-- the three `if`s of the loop body, in the code's order -/
def loopCond (policy : Bytes) (mode : Nat) (p : Endpoint) : Bool :=
  (policy == [] && p.mode == mode) ||
  (p.uri == policy && mode == Gen.modeInvalid) ||
  (p.uri == policy && p.mode == mode)

/-- everything after `sort.Sort`: `sorted` is the slice as the sort left it -/
def selectSorted (sorted : List Endpoint) (policy0 : Bytes) (mode : Nat) : Option Endpoint :=
  let policy := formatPolicy policy0
  if policy = [] ∧ mode = Gen.modeInvalid then sorted.head?
  else sorted.find? (loopCond policy mode)

/-- the whole function, parametric in the sort; `none` = the error return -/
def selectWith (sort : List Endpoint → List Endpoint) (eps : List Endpoint) (policy0 : Bytes) (mode : Nat) :
    Option Endpoint :=
  if eps.length = 0 then none else selectSorted (sort eps) policy0 mode

/-- the sort the driver runs (insertion sort, descending by level): one
    admissible instance of `sort.Sort(sort.Reverse(…))` -/
def insDesc (a : Endpoint) : List Endpoint → List Endpoint
  | [] => [a]
  | b :: r => if b.level ≤ a.level then a :: b :: r else b :: insDesc a r

def sortDesc : List Endpoint → List Endpoint
  | [] => []
  | a :: r => insDesc a (sortDesc r)

/-- what the sort guarantees: a permutation with non-increasing levels -/
def SortedDescOf (l' l : List Endpoint) : Prop :=
  l'.Perm l ∧ l'.Pairwise (fun a b => b.level ≤ a.level)

/-- the SPECIFICATION of "matches the request" (policy already normalised):
    each criterion is either "don't care" or met -/
def Matches (policy : Bytes) (mode : Nat) (e : Endpoint) : Prop :=
  (policy = [] ∨ e.uri = policy) ∧ (mode = Gen.modeInvalid ∨ e.mode = mode)

instance (policy : Bytes) (mode : Nat) (e : Endpoint) : Decidable (Matches policy mode e) := by
  unfold Matches; infer_instance

theorem insDesc_perm (a : Endpoint) (l : List Endpoint) : (insDesc a l).Perm (a :: l) := by
  fun_induction insDesc a l with
  | case1 => exact .refl _
  | case2 => exact .refl _
  | case3 b r _ ih => exact (ih.cons b).trans (.swap a b r)

theorem insDesc_sorted (a : Endpoint) (l : List Endpoint) : l.Pairwise (fun x y => y.level ≤ x.level) →
    (insDesc a l).Pairwise (fun x y => y.level ≤ x.level) := by
  fun_induction insDesc a l <;> grind [List.pairwise_cons, (insDesc_perm a _).mem_iff]

/-- whenever the loop is entered (not both criteria "don't care"), its condition
    is exactly the specification's `Matches` -/
theorem loopCond_iff (policy : Bytes) (mode : Nat) (p : Endpoint)
    (hentered : ¬ (policy = [] ∧ mode = Gen.modeInvalid)) :
    loopCond policy mode p = true ↔ Matches policy mode p := by
  simp only [loopCond, Matches, Bool.or_eq_true, Bool.and_eq_true, beq_iff_eq]
  grind

/-- the part after the sort returns the first match: with both criteria "don't care" everything
    matches and the first match is the head, otherwise the loop condition is `Matches` -/
theorem selectSorted_eq_find (l : List Endpoint) (policy : Bytes) (mode : Nat) :
    selectSorted l policy mode = l.find? fun e => decide (Matches (formatPolicy policy) mode e) := by
  simp only [selectSorted]
  split
  · rename_i hdc
    have : (fun e => decide (Matches (formatPolicy policy) mode e)) = fun _ => true := by
      funext e; exact decide_eq_true ⟨Or.inl hdc.1, Or.inl hdc.2⟩
    rw [this]
    cases l <;> rfl
  · rename_i hent
    congr 1
    funext e
    rw [Bool.eq_iff_iff, loopCond_iff _ _ _ hent, decide_eq_true_iff]

/-- for a sort that honours the contract the length test is redundant: the empty list stays empty and
    nothing is selected from it -/
theorem selectWith_eq (sort : List Endpoint → List Endpoint) (hsort : ∀ l, SortedDescOf (sort l) l)
    (l : List Endpoint) (policy : Bytes) (mode : Nat) :
    selectWith sort l policy mode = selectSorted (sort l) policy mode := by
  unfold selectWith
  split
  · next h0 =>
    obtain rfl := List.eq_nil_of_length_eq_zero h0
    rw [(hsort []).1.eq_nil]
    simp [selectSorted]
  · rfl

/-! ### normalisation -/

/-- the three facts about the table the normalisation lemmas need; decided on
    the generated table in `policyTable_ok` -/
structure TableOk (tbl : List (Bytes × Bytes)) (pre : Bytes) : Prop where
  /-- every value is a URI under the prefix, with a non-empty fragment -/
  vals : ∀ kv ∈ tbl, pre.isPrefixOf kv.2 = true ∧ kv.2 ≠ pre
  /-- no key looks like a URI -/
  keys : ∀ kv ∈ tbl, pre.isPrefixOf kv.1 = false
  pre_ne : pre ≠ []

theorem policyTable_ok : TableOk Gen.secPolicyTable Gen.secPolicyPrefix :=
  ⟨by decide +kernel, by decide +kernel, by decide +kernel⟩

theorem lookup_none_of_prefix {tbl : List (Bytes × Bytes)} {pre p : Bytes} (ok : TableOk tbl pre)
    (hp : pre.isPrefixOf p = true) : tbl.lookup p = none :=
  Option.eq_none_iff_forall_ne_some.mpr fun u h => by simpa [hp] using ok.keys _ (Lists.mem_of_lookup_eq_some h)

theorem TableOk.ne_nil {tbl : List (Bytes × Bytes)} {pre p : Bytes} (ok : TableOk tbl pre)
    (hp : pre.isPrefixOf p = true) : p ≠ [] := by
  rintro rfl
  exact ok.pre_ne (List.prefix_nil.mp (List.isPrefixOf_iff_prefix.mp hp))

section
variable {tbl : List (Bytes × Bytes)} {pre : Bytes}

theorem formatWith_nil : formatWith tbl pre [] = [] := by simp [formatWith]

theorem formatWith_key {k u : Bytes} (hk : k ≠ []) (h : tbl.lookup k = some u) : formatWith tbl pre k = u := by
  simp [formatWith, hk, h]

theorem formatWith_uri (ok : TableOk tbl pre) {p : Bytes} (hp : pre.isPrefixOf p = true) :
    formatWith tbl pre p = p := by
  simp [formatWith, ok.ne_nil hp, lookup_none_of_prefix ok hp, hp]

theorem formatWith_other {p : Bytes} (hne : p ≠ []) (hl : tbl.lookup p = none)
    (hp : pre.isPrefixOf p = false) : formatWith tbl pre p = pre ++ p := by
  simp [formatWith, hne, hl, hp]

theorem formatWith_prefixed (ok : TableOk tbl pre) {p : Bytes} (hne : p ≠ []) :
    pre.isPrefixOf (formatWith tbl pre p) = true := by
  simp only [formatWith, hne, if_false]
  split
  · rename_i u hu; exact (ok.vals _ (Lists.mem_of_lookup_eq_some hu)).1
  · split
    · exact List.isPrefixOf_iff_prefix.mpr (List.prefix_append _ _)
    · rename_i h; simpa using h

theorem formatWith_eq_nil_iff (ok : TableOk tbl pre) (p : Bytes) : formatWith tbl pre p = [] ↔ p = [] := by
  constructor
  · intro h
    by_cases hne : p = []
    · exact hne
    · exact absurd h (ok.ne_nil (formatWith_prefixed ok hne))
  · rintro rfl
    exact formatWith_nil

theorem formatWith_idem (ok : TableOk tbl pre) (p : Bytes) :
    formatWith tbl pre (formatWith tbl pre p) = formatWith tbl pre p := by
  by_cases hne : p = []
  · subst hne; simp only [formatWith_nil]
  · exact formatWith_uri ok (formatWith_prefixed ok hne)

end

end Opcua.EndpointSel
