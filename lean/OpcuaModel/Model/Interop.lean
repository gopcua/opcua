import OpcuaModel.Model.Asym
import OpcuaModel.Gen.Asym
import OpcuaModel.Gen.Interop
/-
  Model of the connect pipeline at the level of sizes and acceptance decisions
  (property C37):

    server.initEndpoints      → `serverEndpoints`   (server/server.go:375)
    endpoint selection        → `selectEndpoint`    (what the runner does with GetEndpoints)
    opcua.SecurityFromEndpoint→ `securityFromEndpoint` (config.go:413)
    uapolicy.Asymmetric guards→ `accepts`           (generated, Gen/Asym.lean)
    signAndEncrypt (OPN)      → `asymSecure`        (uasc/secure_channel_instance.go:186, isAsymmetric)
    EncodeChunks (OPN)        → never splits: one chunk, must fit the receive buffer (uacp.Conn.Receive)
    EncryptUserPassword       → `passwordCipherLen` (uasc/secure_channel_crypto.go)

  Symmetric traffic after the handshake (CreateSession … Read/Write) is the
  business of C07/C38; here it only contributes the key-acceptance checks of
  the session signatures.
-/
namespace Opcua.Interop
open Opcua Opcua.Asym

inductive Auth where
  | anonymous | username
  deriving Repr, DecidableEq

def Auth.name : Auth → String
  | .anonymous => "anonymous"
  | .username => "username"

/-- one security configuration; the policy is an index into
    `Gen.interopPolicies` / `Gen.asymRows` (same order, `C37_index_aligned`) so
    that no string operation is on the evaluation path -/
structure Config where
  pol : Nat
  /-- ua.MessageSecurityMode: 1 None, 2 Sign, 3 SignAndEncrypt -/
  mode : Nat
  /-- client key size in bits, 0 = no certificate / key configured -/
  cbits : Nat
  sbits : Nat
  auth : Auth
  /-- a second, secured policy (index) the server enables besides `pol`, in mode
      SignAndEncrypt; used for the rows "username login over the None endpoint",
      where the None endpoint advertises the username token under that policy -/
  extra : Option Nat := none
  deriving Repr, DecidableEq

def policyInfo (i : Nat) : Option Gen.InteropPolicy := Gen.interopPolicies[i]?
def findRow (i : Nat) : Option AsymRow := Gen.asymRows[i]?
def polName (i : Nat) : String := ((policyInfo i).map (·.name)).getD "?"
def polIndex (name : String) : Option Nat := Gen.interopPolicies.findIdx? (·.name == name)
def polIsNone (i : Nat) : Bool := ((policyInfo i).map (·.isNone)).getD false

def Config.show (c : Config) : String :=
  s!"{polName c.pol},{c.mode},{c.cbits},{c.sbits},{c.auth.name},{match c.extra with | none => "-" | some j => polName j}"

/-! ### The finite table -/

def keySizes : List Nat := Gen.testKeys.map (·.1)

def inRange (r : Int × Int) (bits : Nat) : Bool :=
  decide (r.1 ≤ (bits : Int)) && decide ((bits : Int) ≤ r.2)

/-- Part 7: is a key of `bits` bits allowed for the policy? -/
def keyAllowed (pol : String) (bits : Nat) : Bool :=
  match Spec.keyBits pol with
  | some r => inRange r bits
  | none => true

def enumFrom {α} : Nat → List α → List (Nat × α)
  | _, [] => []
  | i, x :: xs => (i, x) :: enumFrom (i + 1) xs

/-- every supported policy × its modes × every committed key size Part 7 allows on
    each side × the user token types that need no external credentials.
    Policy None: anonymous with and without certificates configured (a server
    that enables only None advertises no username token), and username over
    the None endpoint of a server that also enables a secured policy `q`, for
    every `q` and every server key size `q` allows (the password is encrypted
    with the server certificate under `q`), without and with a client key -/
def configTable : List Config :=
  (enumFrom 0 Gen.interopPolicies).flatMap fun (i, p) =>
    let range := Spec.keyBits p.name
    p.modes.flatMap fun m =>
      match range with
      | none =>
        [⟨i, m, 0, 0, .anonymous, none⟩, ⟨i, m, 2048, 2048, .anonymous, none⟩] ++
        -- a server that also enables a secured policy `q` advertises `username_q` on this endpoint
        (enumFrom 0 Gen.interopPolicies).flatMap fun (j, q) =>
          match Spec.keyBits q.name with
          | none => []
          | some rq => keySizes.flatMap fun sb =>
              if inRange rq sb then
                [⟨i, m, 0, sb, .username, some j⟩, ⟨i, m, 2048, sb, .username, some j⟩]
              else []
      | some r =>
        keySizes.flatMap fun cb => keySizes.flatMap fun sb =>
          if inRange r cb && inRange r sb then
            [⟨i, m, cb, sb, .anonymous, none⟩, ⟨i, m, cb, sb, .username, none⟩]
          else []

/-! ### Server: advertised endpoints (`initEndpoints`) -/

/-- a `UserTokenPolicy`: token type and `SecurityPolicyURI` (`none` = the URI of
    policy None, `some i` = policy `i`). The Go code identifies policies by the
    string `PolicyID = lower(type ++ "_" ++ policy)`, see `policyIDString`;
    these strings are pairwise distinct (`C37_policy_ids_distinct`), so the
    duplicate check on (type, policy) is the duplicate check on the string. -/
structure Token where
  typ : Auth
  secPol : Option Nat
  deriving Repr, DecidableEq

structure Endpoint where
  pol : Nat
  mode : Nat
  tokens : List Token
  deriving Repr, DecidableEq

def lower (s : String) : String := s.map Char.toLower

def policyIDString (t : Token) : String :=
  lower (t.typ.name ++ "_" ++ (match t.secPol with | none => "None" | some i => polName i))

/-- the two nested loops over `enabledAuth` × `enabledSec` with the duplicate check -/
def tokensFor (enabledSec : List (Nat × Nat)) (enabledAuth : List Auth) : List Token :=
  enabledAuth.foldl (fun acc auth =>
    enabledSec.foldl (fun acc authSec =>
      let secPol : Option Nat := if auth = .anonymous ∨ polIsNone authSec.1 then none else some authSec.1
      if auth ≠ .anonymous ∧ polIsNone authSec.1 then acc          -- `continue`
      else
        let tok : Token := ⟨auth, secPol⟩
        if acc.any (· == tok) then acc                              -- `dup`
        else acc ++ [tok]) acc) []

def serverEndpoints (enabledSec : List (Nat × Nat)) (enabledAuth : List Auth) : List Endpoint :=
  enabledSec.map fun sec => ⟨sec.1, sec.2, tokensFor enabledSec enabledAuth⟩

/-! ### Client: endpoint and token selection -/

def selectEndpoint (eps : List Endpoint) (pol : Nat) (mode : Nat) : Option Endpoint :=
  eps.find? fun e => e.pol = pol ∧ e.mode = mode

/-- `SecurityFromEndpoint`: first token of the wanted type; result = AuthPolicyURI
    (the token's SecurityPolicyURI is never empty in `initEndpoints`) -/
def securityFromEndpoint (ep : Endpoint) (auth : Auth) : Option (Option Nat) :=
  (ep.tokens.find? (·.typ = auth)).map (·.secPol)

/-! ### Keys -/

/-- `uapolicy.Asymmetric(pol, local, remote)` returns an algorithm; `none` = nil key -/
def accepts (pol : Nat) (localBits remoteBits : Option Nat) : Bool :=
  match findRow pol with
  | none => false
  | some row =>
    row.accept localBits.isSome ((localBits.getD 0 : Nat) : Int)
      remoteBits.isSome ((remoteBits.getD 0 : Nat) : Int)

def certLenClient (bits : Nat) : Nat := ((Gen.testKeys.find? (·.1 = bits)).map (·.2.1)).getD 0
def certLenServer (bits : Nat) : Nat := ((Gen.testKeys.find? (·.1 = bits)).map (·.2.2)).getD 0

/-! ### OPN chunk sizes -/

structure Secured where
  /-- value written into MessageSize -/
  sizeField : Int
  /-- length of the slice signAndEncrypt returns -/
  chunkLen : Int
  deriving Repr, DecidableEq

/-- `signAndEncrypt` for an asymmetric message: `H` header length, `n` bytes of
    sequence header + body, `sigLen` = local key bytes, `k` = remote key bytes,
    `ptPad` the constant of `PlaintextBlockSize()`, `encPad` the constant of the
    `Encrypt` loop. -/
def asymSecure (H n sigLen k ptPad encPad : Int) : Secured :=
  let plaintextBlockSize := k - ptPad
  let extraPadding := decide (k > 256)              -- RemoteSignatureLength() > 256
  let paddingBytes : Int := if extraPadding then 2 else 1
  let remainder := Int.tmod (n + sigLen + paddingBytes) plaintextBlockSize
  let paddingLength : Int := if remainder ≠ 0 then plaintextBlockSize - remainder else 0
  let n2 := n + (paddingLength + 1) + (if extraPadding then 1 else 0)
  let encryptedLength := Int.tdiv (n2 + sigLen) plaintextBlockSize * k
  -- Encrypt: ⌈plain / (k − encPad)⌉ blocks of k bytes (C15_blocks)
  let plain := n2 + sigLen
  let maxBlock := k - encPad
  let blocks := if maxBlock ≤ 0 then 0 else (plain + maxBlock - 1) / maxBlock
  { sizeField := H + encryptedLength, chunkLen := H + blocks * k }

/-- header length of an OPN chunk: 12 + (4+|uri|) + (4+|cert|) + (4+|thumbprint|) -/
def opnHeaderLen (uriLen certLen thumbLen : Nat) : Int := 12 + 12 + uriLen + certLen + thumbLen

/-- the secured OpenSecureChannel request (client → server) -/
def opnRequest (c : Config) : Option Secured := do
  let p ← policyInfo c.pol
  let row ← findRow c.pol
  if c.mode = 1 then
    -- mode None: signAndEncrypt returns the chunk unchanged; no thumbprint is sent
    let l := opnHeaderLen p.uriLen (certLenClient c.cbits) 0 + 8 + p.opnReqBody
    pure ⟨l, l⟩
  else
    pure (asymSecure (opnHeaderLen p.uriLen (certLenClient c.cbits) 20) (8 + p.opnReqBody)
      (sizeOfBits c.cbits) (sizeOfBits c.sbits) row.ptPad row.encPad)

/-- the secured OpenSecureChannel response (server → client) -/
def opnResponse (c : Config) : Option Secured := do
  let p ← policyInfo c.pol
  let row ← findRow c.pol
  if c.mode = 1 then
    let l := opnHeaderLen p.uriLen (certLenServer c.sbits) 0 + 8 + p.opnRespBody
    pure ⟨l, l⟩
  else
    pure (asymSecure (opnHeaderLen p.uriLen (certLenServer c.sbits) 20) (8 + p.opnRespBody)
      (sizeOfBits c.sbits) (sizeOfBits c.cbits) row.ptPad row.encPad)

/-- `EncryptUserPassword`: length of the encrypted secret `len ‖ password ‖ serverNonce` -/
def passwordCipherLen (tokenPol : Nat) (sbits pwLen : Nat) : Option Int := do
  let row ← findRow tokenPol
  if row.scheme = .none then pure pwLen else
  let k := sizeOfBits sbits
  let maxBlock := k - row.encPad
  if maxBlock ≤ 0 then none else
  pure ((((4 + pwLen + Gen.sessionNonceLength : Nat) : Int) + maxBlock - 1) / maxBlock * k)

/-! ### The pipeline -/

/-- How a server admits an OpenSecureChannel request with a given (policy, mode)
    (`handleOpenSecureChannelRequest`). The code as it is admits EVERY pair
    (`any`; that is the recorded C30 defect). `enabledOnly` is the withdrawn C30
    repair (only pairs registered with EnableSecurity), `enabledOrDiscovery` the
    repair Part 4 §5.4.1 allows: enabled pairs, plus the unsecured None/None
    channel for the Discovery services. -/
inductive Admission where
  | any | enabledOnly | enabledOrDiscovery
  deriving Repr, DecidableEq

def admits (a : Admission) (enabled : List (Nat × Nat)) (polIsNoneChan : Bool) (pol mode : Nat) : Bool :=
  match a with
  | .any => true
  | .enabledOnly => enabled.contains (pol, mode)
  | .enabledOrDiscovery => enabled.contains (pol, mode) || (polIsNoneChan && mode == 1)

inductive Stage where
  | ok
  | unsupportedPolicy
  | discoveryRefused       -- the None/None channel of opcua.GetEndpoints is not admitted
  | channelRefused         -- the (policy, mode) of the selected endpoint is not admitted
  | noEndpoint
  | tokenNotAdvertised
  | clientRefusesKeys      -- uapolicy.Asymmetric on the client (open, session signatures)
  | serverRefusesKeys      -- uapolicy.Asymmetric on the server (readChunk, session signatures)
  | opnRequestBad          -- MessageSize ≠ chunk length, or larger than the server's receive buffer
  | opnResponseBad
  | passwordRefused
  deriving Repr, DecidableEq

def Stage.name : Stage → String
  | .ok => "ok"
  | .unsupportedPolicy => "fail:unsupported-policy"
  | .discoveryRefused => "fail:discovery"
  | .channelRefused => "fail:channel-refused"
  | .noEndpoint => "fail:no-endpoint"
  | .tokenNotAdvertised => "fail:token-not-advertised"
  | .clientRefusesKeys => "fail:client-refuses-keys"
  | .serverRefusesKeys => "fail:server-refuses-keys"
  | .opnRequestBad => "fail:opn-request"
  | .opnResponseBad => "fail:opn-response"
  | .passwordRefused => "fail:password"

def fitsOne (s : Option Secured) : Bool :=
  match s with
  | none => false
  | some x => decide (x.sizeField = x.chunkLen) && decide (x.chunkLen ≤ (Gen.defaultReceiveBufSize : Int))

/-- a server that enables (policy, mode) — plus `extra` in SignAndEncrypt — with
    the anonymous and the username token type; a client that selects the
    advertised (policy, mode) endpoint -/
def connectWith (adm : Admission) (c : Config) : Stage :=
  if (policyInfo c.pol).isNone ∨ (findRow c.pol).isNone then .unsupportedPolicy else
  let enabled := (c.pol, c.mode) :: (match c.extra with | none => [] | some j => [(j, 3)])
  -- discovery: opcua.GetEndpoints opens an unsecured (None, None) channel first;
  -- the server must admit it although None need not be among its endpoints
  let nonePol := (Gen.interopPolicies.findIdx? (·.isNone)).getD 0
  if !admits adm enabled true nonePol 1 then .discoveryRefused
  else if !admits adm enabled (polIsNone c.pol) c.pol c.mode then .channelRefused else
  let eps := serverEndpoints enabled [.anonymous, .username]
  match selectEndpoint eps c.pol c.mode with
  | none => .noEndpoint
  | some ep =>
    match securityFromEndpoint ep c.auth with
    | none => .tokenNotAdvertised
    | some authPolicy =>
      let secured := decide (c.mode ≠ 1)
      let ck : Option Nat := if secured then some c.cbits else none
      let sk : Option Nat := if secured then some c.sbits else none
      -- client: open(), VerifySessionSignature, NewSessionSignature
      if secured && c.cbits = 0 then .clientRefusesKeys
      else if !accepts c.pol ck sk then .clientRefusesKeys
      -- server: readChunk (OPN), handleOpenSecureChannelRequest, NewSessionSignature, VerifySessionSignature
      else if !accepts c.pol sk ck then .serverRefusesKeys
      else if !fitsOne (opnRequest c) then .opnRequestBad
      else if !fitsOne (opnResponse c) then .opnResponseBad
      else if c.auth = .username then
        -- EncryptUserPassword(AuthPolicyURI, …): Asymmetric(AuthPolicyURI, clientKey, serverKey)
        match authPolicy with
        | none => .ok                                             -- policy None: the password travels in clear
        | some ap =>
          if !accepts ap (if c.cbits = 0 then none else some c.cbits) (some c.sbits) then .passwordRefused
          else if (passwordCipherLen ap c.sbits 1).isNone then .passwordRefused
          else .ok
      else .ok

end Opcua.Interop

namespace Opcua.Interop
/-- the code as it is: every channel is admitted -/
def connect (c : Config) : Stage := connectWith .any c
end Opcua.Interop
