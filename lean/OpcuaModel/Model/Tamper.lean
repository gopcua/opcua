import OpcuaModel.Base.Bytes
/-
  Byte-level model of `channelInstance.verifyAndDecrypt`
  (uasc/secure_channel_instance.go), statement by statement, for a chunk whose
  headers were decoded (`MessageChunk.Decode` consumed `H` bytes, so `H ≤ |r|`).
  `verifyAndDecrypt` here is the function after its first guard; the guard (the
  unsecured carve-out: `SecurityMode == None …` returns `m.Data` before anything
  else) is `carveOut`, the whole function `receive`. State of the code: after the
  `fix:` commit that added the two length checks.

  The cryptographic primitives are parameters: `dec` is `c.algo.Decrypt`
  (AES-CBC or block RSA), `verify` is `c.algo.VerifySignature` (HMAC or RSA).
  Nothing is assumed about them here; the theorems are in Props/C09.lean, where
  `C09_tamper_partial` states its idealisation explicitly.
-/
namespace Opcua.Tamper
open Opcua

/-- the slice / index expressions of the function that can still fail in the
    MODEL for parameter values the code never has (`headerLength ≥ 12` always,
    and the caller passes the bytes it decoded the headers from); the former
    sites `b[len(b)-sigLen:]` and `messageToVerify[headerLength:len-padding]`
    are now behind explicit length checks -/
inductive Site where
  /-- `b[headerLength:]` (only if the caller passes fewer bytes than the headers it decoded) -/
  | hdr
  /-- `messageToVerify[len(messageToVerify)-1]` -/
  | padByte
  /-- `messageToVerify[len(messageToVerify)-2]` -/
  | padByte2
  deriving Repr, DecidableEq

inductive Out where
  | ok (data : Bytes) | err | panic (s : Site)
  deriving Repr, DecidableEq

structure Params where
  /-- `headerLength` = 12 + security header length -/
  H : Nat
  /-- `c.algo.RemoteSignatureLength()` -/
  RS : Nat
  /-- `c.algo.SignatureLength()` (decides the two-byte padding size) -/
  S : Nat
  /-- `SecurityMode == SignAndEncrypt || isAsymmetric` -/
  enc : Bool
  deriving Repr, DecidableEq

/-- `paddingLength` as the code computes it from the verified bytes;
    `.error s` = the index expression `s` panics -/
def paddingLength (P : Params) (mtv : Bytes) : Except Site Nat :=
  if !P.enc then .ok 0 else
  if mtv.length = 0 then .error .padByte else
  let last := (mtv.getD (mtv.length - 1) 0).toNat
  if P.S > 256 then
    if mtv.length < 2 then .error .padByte2 else
    -- paddingLength <<= 8; += messageToVerify[len-2]; += 1; then += 1
    .ok (last * 256 + (mtv.getD (mtv.length - 2) 0).toNat + 1 + 1)
  else .ok (last + 1)

/-- the bytes after decryption: header ‖ plaintext (`b = append(b[:headerLength], p...)`) -/
def decrypted (P : Params) (dec : Bytes → Option Bytes) (r : Bytes) : Option Bytes :=
  if P.enc then (dec (r.drop P.H)).map (r.take P.H ++ ·) else some r

def verifyAndDecrypt (P : Params) (dec : Bytes → Option Bytes) (verify : Bytes → Bytes → Bool)
    (r : Bytes) : Out :=
  if P.enc && decide (r.length < P.H) then .panic .hdr else   -- `b[headerLength:]` handed to Decrypt
  match decrypted P dec r with
  | none => .err                                             -- StatusBadSecurityChecksFailed
  | some b =>
    -- `if len(b) < headerLength+RemoteSignatureLength() { return BadSecurityChecksFailed }`
    if b.length < P.H + P.RS then .err else
    let signature := b.drop (b.length - P.RS)
    let mtv := b.take (b.length - P.RS)
    if !verify mtv signature then .err else
    match paddingLength P mtv with
    | .error s => .panic s
    | .ok pl =>
      -- `if paddingLength > len(messageToVerify)-headerLength { return BadSecurityChecksFailed }`
      if pl > mtv.length - P.H then .err else
      -- messageToVerify[headerLength : len(messageToVerify)-paddingLength]
      .ok ((mtv.drop P.H).take (mtv.length - pl - P.H))

/-- the guard at the top of the function: the chunk is returned raw
    (`return m.Data, nil`), without any check, iff
    `SecurityMode == None && (SecurityPolicyURI == None || !isAsymmetric)` -/
def carveOut (modeNone policyNone isAsym : Bool) : Bool :=
  modeNone && (policyNone || !isAsym)

/-- the whole function: carve-out, else decrypt / verify -/
def receive (modeNone policyNone isAsym : Bool) (P : Params) (dec : Bytes → Option Bytes)
    (verify : Bytes → Bytes → Bool) (r : Bytes) : Out :=
  if carveOut modeNone policyNone isAsym then .ok (r.drop P.H)      -- `m.Data`
  else verifyAndDecrypt P dec verify r

def Out.isPanic : Out → Bool
  | .panic _ => true
  | _ => false

theorem short_of_paddingLength_error {P : Params} {m : Bytes} {s : Site} (h : paddingLength P m = .error s) :
    m.length < 2 := by
  apply Decidable.by_contra
  intro h2
  have h0 : ¬ m.length = 0 := by omega
  rw [paddingLength] at h
  by_cases he : (!P.enc) = true
  · rw [if_pos he] at h; cases h
  · rw [if_neg he, if_neg h0] at h
    dsimp only at h
    by_cases hS : P.S > 256
    · rw [if_pos hS, if_neg h2] at h; cases h
    · rw [if_neg hS] at h; cases h

/-- what `decrypted` keeps of the wire bytes -/
theorem decrypted_some {P : Params} {dec} {r b : Bytes} (hdec : P.H ≤ r.length)
    (hd : decrypted P dec r = some b) :
    b.take P.H = r.take P.H ∧ (P.enc = true → dec (r.drop P.H) = some (b.drop P.H)) ∧
      (P.enc = false → b = r) := by
  unfold decrypted at hd
  cases he : P.enc with
  | false => rw [he] at hd; cases hd; exact ⟨rfl, nofun, fun _ => rfl⟩
  | true =>
    rw [he, if_pos rfl, Option.map_eq_some_iff] at hd
    obtain ⟨q, hq, rfl⟩ := hd
    have hl : (r.take P.H).length = P.H := List.length_take_of_le hdec
    rw [List.take_left' hl, List.drop_left' hl]
    exact ⟨rfl, fun _ => hq, nofun⟩

/-- `verifyAndDecrypt` on decoded headers, result by result: an error; or the bytes decrypted to
    `b` (at least header and signature), the signature verified over all of `b` before it, and
    then a panic where the padding count is read, an error for a count beyond the body, or the
    body without the padding -/
theorem verifyAndDecrypt_cases (P : Params) (dec : Bytes → Option Bytes) (verify : Bytes → Bytes → Bool) {r : Bytes}
    (hdec : P.H ≤ r.length) :
    verifyAndDecrypt P dec verify r = .err ∨
    ∃ b, decrypted P dec r = some b ∧ P.H + P.RS ≤ b.length ∧
      verify (b.take (b.length - P.RS)) (b.drop (b.length - P.RS)) = true ∧
      ((∃ s, paddingLength P (b.take (b.length - P.RS)) = .error s ∧ verifyAndDecrypt P dec verify r = .panic s) ∨
       ∃ pl, paddingLength P (b.take (b.length - P.RS)) = .ok pl ∧
        ((b.take (b.length - P.RS)).length - P.H < pl ∧ verifyAndDecrypt P dec verify r = .err ∨
         pl ≤ (b.take (b.length - P.RS)).length - P.H ∧ verifyAndDecrypt P dec verify r =
           .ok (((b.take (b.length - P.RS)).drop P.H).take ((b.take (b.length - P.RS)).length - pl - P.H)))) := by
  rw [verifyAndDecrypt, if_neg (by simp only [Bool.and_eq_true, decide_eq_true_eq]; omega)]
  cases decrypted P dec r with
  | none => exact .inl rfl
  | some b =>
    dsimp only
    by_cases hl : b.length < P.H + P.RS
    · exact .inl (if_pos hl)
    · rw [if_neg hl]
      cases hv : verify (b.take (b.length - P.RS)) (b.drop (b.length - P.RS)) with
      | false => exact .inl rfl
      | true =>
        refine .inr ⟨b, rfl, Nat.le_of_not_lt hl, hv, ?_⟩
        cases paddingLength P (b.take (b.length - P.RS)) with
        | error s => exact .inl ⟨s, rfl, rfl⟩
        | ok pl =>
          refine .inr ⟨pl, rfl, ?_⟩
          by_cases hp : pl > (b.take (b.length - P.RS)).length - P.H
          · exact .inl ⟨hp, if_pos hp⟩
          · exact .inr ⟨Nat.le_of_not_lt hp, if_neg hp⟩

/-- what is known when data is returned: the `.ok` case of `verifyAndDecrypt_cases` -/
theorem verifyAndDecrypt_ok {P : Params} {dec : Bytes → Option Bytes} {verify : Bytes → Bytes → Bool} {r p : Bytes}
    (hdec : P.H ≤ r.length) (h : verifyAndDecrypt P dec verify r = .ok p) :
    ∃ b pl, decrypted P dec r = some b ∧ P.H + P.RS ≤ b.length ∧
      verify (b.take (b.length - P.RS)) (b.drop (b.length - P.RS)) = true ∧
      paddingLength P (b.take (b.length - P.RS)) = .ok pl ∧ pl ≤ (b.take (b.length - P.RS)).length - P.H ∧
      p = ((b.take (b.length - P.RS)).drop P.H).take ((b.take (b.length - P.RS)).length - pl - P.H) := by
  rcases verifyAndDecrypt_cases P dec verify hdec with
    he | ⟨b, hd, hl, hs, ⟨s, _, he⟩ | ⟨pl, hp, ⟨_, he⟩ | ⟨hle, he⟩⟩⟩
  · cases he.symm.trans h
  · cases he.symm.trans h
  · cases he.symm.trans h
  · exact ⟨b, pl, hd, hl, hs, hp, hle, Out.ok.inj (h.symm.trans he)⟩

end Opcua.Tamper
