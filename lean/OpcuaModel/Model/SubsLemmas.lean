import OpcuaModel.Model.Subs
/-
  Acknowledgements: `keepNotAcked` as zip / filter / map; what one event does to the pending list
  (`kept`, `pending_onEvent`); an acknowledgement that is neither pending nor received again is in
  no later request (`absent_stays_absent`).
  Reconnect: the `restoreSubscriptions` step as an equation (`step_restoreSubs`); the recreate loop
  when the server hands out fresh ids (`recreateOne_ok`, `recreateAll_ok`); the work lists of a
  transfer cover the ids once (`transferLists_perm`).
-/
namespace Opcua.Subs

/-! ### acknowledgements -/

theorem keepNotAcked_sublist : ∀ (p : List Ack) (r : List AckRes), (keepNotAcked p r).Sublist p
  | [], _ => by simp [keepNotAcked]
  | _ :: _, [] => by simp [keepNotAcked]
  | a :: as, r :: rs => by
    unfold keepNotAcked
    split
    · exact (keepNotAcked_sublist as rs).cons_cons a
    · exact (keepNotAcked_sublist as rs).cons a

theorem handleAcks_sublist (p : List Ack) (r : List AckRes) : (handleAcks p r).Sublist p := by
  unfold handleAcks
  split
  · cases r <;> simp [keepNotAcked]
  · exact keepNotAcked_sublist p r

theorem keepNotAcked_eq : ∀ (p : List Ack) (r : List AckRes),
    keepNotAcked p r = ((p.zip r).filter (·.2.retry)).map (·.1)
  | [], _ => by simp [keepNotAcked]
  | _ :: _, [] => by simp [keepNotAcked]
  | a :: as, r :: rs => by
    simp only [keepNotAcked, keepNotAcked_eq as rs, List.zip_cons_cons, List.filter_cons]
    split <;> rfl

theorem mem_keepNotAcked_iff (p : List Ack) (r : List AckRes) (a : Ack) :
    a ∈ keepNotAcked p r ↔ ∃ i, ∃ (h₁ : i < p.length) (h₂ : i < r.length), p[i] = a ∧ r[i].retry = true := by
  simp only [keepNotAcked_eq, List.mem_map, List.mem_filter, List.mem_iff_getElem (l := p.zip r),
    List.getElem_zip, List.length_zip, Nat.lt_min]
  constructor
  · rintro ⟨_, ⟨⟨i, h, rfl⟩, hr⟩, rfl⟩
    exact ⟨i, h.1, h.2, rfl, hr⟩
  · rintro ⟨i, h₁, h₂, rfl, hr⟩
    exact ⟨_, ⟨⟨i, ⟨h₁, h₂⟩, rfl⟩, hr⟩, rfl⟩

theorem keepNotAcked_all_final (p : List Ack) (r : List AckRes)
    (h : r.all (fun x => !x.retry) = true) : keepNotAcked p r = [] := by
  rw [keepNotAcked_eq, List.map_eq_nil_iff, List.filter_eq_nil_iff]
  intro x hx
  have := List.all_eq_true.mp h x.2 (List.of_mem_zip hx).2
  simpa using this

theorem handleAcks_all_final (p : List Ack) (r : List AckRes)
    (h : r.all (fun x => !x.retry) = true) : handleAcks p r = [] := by
  unfold handleAcks
  exact keepNotAcked_all_final _ r h

@[simp] theorem findSub_setSub_pending (c : Client) (p : List Ack) :
    ({ c with pending := p } : Client).subs = c.subs := rfl

/-- what an event leaves of the acknowledgements queued before it -/
def kept (c : Client) : PubEvent → List Ack
  | .resp r => handleAcks c.pending r.results
  | .err => c.pending

theorem pending_onEvent (c : Client) (e : PubEvent) :
    (onEvent c e).pending = kept c e ++ (received c e).toList := by
  cases e with
  | err => simp [onEvent, kept, received]
  | resp r =>
    simp only [onEvent, onResponse, received, kept]
    cases findSub c.subs r.sub with
    | none => simp
    | some s => by_cases hn : r.ndata = 0 <;> simp [handleNotification, hn]

theorem kept_sublist (c : Client) (e : PubEvent) : (kept c e).Sublist c.pending := by
  cases e with
  | err => exact List.Sublist.refl _
  | resp r => exact handleAcks_sublist _ _

theorem kept_wellAnswered {c : Client} {e : PubEvent} (hw : wellAnswered c e = true) : kept c e = [] := by
  cases e with
  | err => simp [wellAnswered] at hw
  | resp r =>
    simp only [wellAnswered, Bool.and_eq_true] at hw
    exact handleAcks_all_final _ _ hw.2

theorem mem_pending_onEvent {c : Client} {e : PubEvent} {x : Ack} (h : x ∈ (onEvent c e).pending) :
    x ∈ c.pending ∨ received c e = some x := by
  rw [pending_onEvent, List.mem_append, Option.mem_toList] at h
  exact h.imp ((kept_sublist c e).subset ·) id

theorem requests_errors (c : Client) : ∀ n, requests c (List.replicate n .err) = List.replicate n c.pending
  | 0 => rfl
  | n + 1 => by
    simp only [List.replicate_succ, requests, onEvent, requestAcks, requests_errors c n]

/-- the states a history passes through, each paired with the event it handles next -/
def statesOf : Client → List PubEvent → List (Client × PubEvent)
  | _, [] => []
  | c, e :: es => (c, e) :: statesOf (onEvent c e) es

theorem absent_stays_absent {a : Ack} : ∀ (es : List PubEvent) (c : Client), a ∉ c.pending →
    (∀ c' e', (c', e') ∈ statesOf c es → received c' e' ≠ some a) →
    ∀ r ∈ requests c es, a ∉ r
  | [], _, _, _ => by simp [requests]
  | e :: es, c, hc, hl => by
    intro r hr
    simp only [requests, List.mem_cons] at hr
    rcases hr with rfl | hr
    · exact hc
    · have hc' : a ∉ (onEvent c e).pending := by
        intro hmem
        rcases mem_pending_onEvent hmem with h | h
        · exact hc h
        · exact hl c e (by simp [statesOf]) h
      exact absent_stays_absent es (onEvent c e) hc'
        (fun c' e' hm => hl c' e' (by simp [statesOf, hm])) r hr

/-! ### reconnect -/

theorem recreateAll_nil (subs : List CSub) (os : List Recreate) (n : Nat) :
    recreateAll subs [] os n = (subs, n) := by
  cases os <;> simp [recreateAll]

theorem republishAll_nil (oks : List Bool) : republishAll [] oks = [] := by
  cases oks <;> simp [republishAll]

/-- the `restoreSubscriptions` case of the action loop: the client is Connected whatever
    happened in the two loops -/
theorem step_restoreSubs {m m' : Mon} {rep : List Bool} {rec : List Recreate}
    (ha : m.action = .restoreSubscriptions) (hs : step m (.restoreSubsRes rep rec) = some m') :
    m' = { m with
      action := .none, connected := true,
      toRecreate := m.toRecreate ++ republishAll m.toRepublish rep,
      subs := (recreateAll m.subs (m.toRecreate ++ republishAll m.toRepublish rep) rec m.toRepublish.length).1,
      activeSubs :=
        (recreateAll m.subs (m.toRecreate ++ republishAll m.toRepublish rep) rec m.toRepublish.length).2 } := by
  unfold step at hs
  simp only [ha] at hs
  split at hs
  · exact (Option.some.inj hs).symm
  · cases hs

theorem republishAll_all_ok : ∀ (ids : List Nat), republishAll ids (ids.map fun _ => true) = []
  | [] => rfl
  | _ :: ids => by simp [republishAll, republishAll_all_ok ids]

theorem find_erase_perm : ∀ (subs : List CSub) (id : Nat), id ∈ subs.map (·.id) → (subs.map (·.id)).Nodup →
    ∃ s, subs.find? (·.id == id) = some s ∧ s.id = id ∧ subs.Perm (s :: eraseId subs id)
  | [], _, h, _ => by simp at h
  | x :: xs, id, h, hnd => by
    simp only [List.map_cons, List.nodup_cons, List.mem_cons] at hnd h
    by_cases hx : x.id = id
    · have : xs.filter (·.id != id) = xs := List.filter_eq_self.mpr fun y hy => by
        have : y.id ≠ id := fun he => hnd.1 (hx ▸ he ▸ List.mem_map_of_mem hy)
        simpa using this
      exact ⟨x, by simp [hx], hx, by simp [eraseId, hx, this]⟩
    · obtain ⟨s, hf, hid, hp⟩ := find_erase_perm xs id (h.resolve_left (hx ·.symm)) hnd.2
      exact ⟨s, by simp [hx, hf], hid, by simpa [eraseId, hx] using (hp.cons x).trans (.swap s x _)⟩

theorem hasId_false_iff (subs : List CSub) (n : Nat) : hasId subs n = false ↔ n ∉ subs.map (·.id) := by
  simp only [hasId, List.any_eq_false, beq_iff_eq, List.mem_map, not_exists, not_and]

theorem recreateOne_ok {subs : List CSub} {id nid : Nat} {rest : List Nat}
    (hp : (subs.map (·.id)).Perm (id :: rest)) (hnd : (id :: rest).Nodup) (hz : nid ≠ 0) (hn : nid ∉ rest) :
    ∃ subs', recreateOne subs id (.created nid true) = (subs', true) ∧
      (subs'.map (·.id)).Perm (rest ++ [nid]) ∧ (subs'.map (·.items)).Perm (subs.map (·.items)) := by
  obtain ⟨s, hfind, hsid, hperm⟩ :=
    find_erase_perm subs id (hp.mem_iff.mpr (by simp)) (hp.nodup_iff.mpr hnd)
  have h1 : ((eraseId subs id).map (·.id)).Perm rest :=
    (List.perm_cons id).mp (by simpa [hsid] using (hperm.map (·.id)).symm.trans hp)
  have hhas : hasId (eraseId subs id) nid = false :=
    (hasId_false_iff _ _).mpr fun h => hn (h1.mem_iff.mp h)
  refine ⟨eraseId subs id ++ [⟨nid, s.items⟩], by simp [recreateOne, hfind, hz, hhas], ?_, ?_⟩
  · simpa using h1.append_right [nid]
  · simpa using (List.perm_append_singleton _ _).trans (hperm.map (·.items)).symm

/-- each new id is non-zero and differs from the ids still waiting to be recreated
    and from the new ids handed out before -/
def Fresh : List Nat → List Nat → List Nat → Prop
  | _ :: ids, n :: ns, acc => n ≠ 0 ∧ n ∉ ids ∧ n ∉ acc ∧ Fresh ids ns (acc ++ [n])
  | _, _, _ => True

/-- the recreate loop when every create succeeds with a fresh id. `ids` is the work list still to
    do; `acc` is the rest of the registry: the ids outside the work list followed by the new ids
    handed out so far (with `acc = []` at the call: everything registered is recreated) -/
theorem recreateAll_ok : ∀ (ids nids acc : List Nat) (subs : List CSub) (n : Nat),
    (subs.map (·.id)).Perm (ids ++ acc) → (ids ++ acc).Nodup → ids.length = nids.length →
    Fresh ids nids acc →
    ∃ subs', recreateAll subs ids (nids.map fun k => .created k true) n = (subs', n + ids.length) ∧
      (subs'.map (·.id)).Perm (acc ++ nids) ∧ (subs'.map (·.items)).Perm (subs.map (·.items))
  | [], nids, acc, subs, n, hp, _, hl, _ => by
    cases nids with
    | nil => exact ⟨subs, by simp [recreateAll], by simpa using hp, .refl _⟩
    | cons _ _ => simp at hl
  | id :: ids, [], _, _, _, _, _, hl, _ => by simp at hl
  | id :: ids, nid :: nids, acc, subs, n, hp, hnd, hl, ⟨hz, hni, hna, hf⟩ => by
    have hn : nid ∉ ids ++ acc := by simp [hni, hna]
    obtain ⟨subs1, h1, hpid, hpit⟩ := recreateOne_ok hp hnd hz hn
    have hnd' : (ids ++ acc ++ [nid]).Nodup :=
      (List.perm_append_singleton nid _).nodup_iff.mpr (List.nodup_cons.mpr ⟨hn, (List.nodup_cons.mp hnd).2⟩)
    obtain ⟨subs', hrec, hpid', hpit'⟩ := recreateAll_ok ids nids (acc ++ [nid]) subs1 (n + 1)
      (by simpa using hpid) (by simpa using hnd') (by simpa using hl) hf
    refine ⟨subs', ?_, by simpa using hpid', hpit'.trans hpit⟩
    simp only [List.map_cons, recreateAll, h1, if_true, hrec, List.length_cons, Prod.mk.injEq, true_and]
    omega

theorem transferLists_perm {ids : List Nat} {r : Transfer}
    (hr : ∀ bad, r = .results bad → bad.length = ids.length) :
    ((transferLists ids r).1 ++ (transferLists ids r).2).Perm ids := by
  cases r with
  | unsupported => simp [transferLists]
  | failed => simp [transferLists]
  | results bad =>
    have h := (List.filter_append_perm (fun p : Nat × Bool => !p.2) (ids.zip bad)).map (·.1)
    simpa [transferLists, List.map_fst_zip (Nat.le_of_eq (hr bad rfl).symm)] using h

end Opcua.Subs
