import OpcuaModel.Model.ClientSite
/-
  C21 — client calls never panic on a well-formed server response.

  For every client operation `outcome op shape : Outcome` (value | error |
  panic) is a total function of the SHAPE of the server's answers: exactly what
  the Go code inspects — kind of response (expected type and Good / expected
  type and Bad ServiceResult / ServiceFault / another type), number of request
  items vs. length of the result array, per-result status, presence / type /
  array-ness of the Variant of the first DataValue, the chain of BrowseNext
  answers, and a few flags.  Loops of the Go code are recursive functions
  here; an index expression inside a loop is an explicit `panic` branch
  (`indexLoop`, `modifyLoop`), which the closed forms at the end show to be
  unreachable behind the length checks; `auditedSites` marks every site safe.
-/
namespace Opcua.ClientResp

inductive Outcome where
  | value | error | panic
  deriving Repr, DecidableEq

/-- how `sendRequestWithTimeout` + `safeAssign` see an answer -/
inductive Kind where
  | ok          -- expected type, ServiceResult Good
  | badStatus   -- expected type, ServiceResult Bad: handler runs, status is returned
  | fault       -- ServiceFault (Bad)
  | wrongType   -- another response type, Good: safeAssign fails
  | notResponse -- a decodable service message that is no response at all (e.g. a request echoed back):
                -- `msg.Response()` is nil, safeAssign(nil, &res) fails
  deriving Repr, DecidableEq

/-- built-in type classes the getters distinguish -/
inductive Tid where
  | null | byte | sbyte | int32 | qname | ltext | string | double
  | extobj        -- ExtensionObject(s) with a decoded body
  | extobjNoBody  -- ExtensionObject(s) without a body (`eo.Value == nil`)
  deriving Repr, DecidableEq

/-- the `Value` of `Results[0]` -/
structure Val where
  present : Bool      -- the DataValue carries a Variant (`dv.Value != nil`)
  tid     : Tid
  isArray : Bool
  arrLen  : Nat
  deriving Repr, DecidableEq

/-- payload of one NotificationData extension object of a PublishResponse -/
inductive Notif where
  | dataChange | event | statusChange | otherType | noBody
  deriving Repr, DecidableEq

structure Shape where
  kind    : Kind
  /-- number of items in the request (items to create / modify, subscription ids …) -/
  nReq    : Nat
  /-- the result array: one entry per result, `true` = its status code is Good -/
  results : List Bool
  val     : Val
  /-- the BrowseNext answers that follow a Browse (each: kind, number of results);
      every answer but the last carries a continuation point -/
  chain   : List (Kind × Nat)
  /-- Subscribe: the server returned subscription id 0 -/
  subIdZero : Bool
  /-- Subscribe: the server returned an id that is already registered -/
  subIdDup  : Bool
  /-- ModifyMonitoredItems: all ids of the request are known to the client -/
  idsKnown  : Bool
  /-- Publish: the response names a subscription the client knows -/
  subKnown  : Bool
  /-- Publish: the notification data of the message -/
  notifs    : List Notif
  /-- Publish: number of acknowledgements the client sent with the request (`c.pendingAcks`) -/
  pendingAcks : Nat
  deriving Repr, DecidableEq

def Shape.nRes (s : Shape) : Nat := s.results.length

/-- operations whose handler is only `safeAssign` and whose result is returned as is -/
inductive Plain where
  | read | write | browse | browseNext | registerNodes | unregisterNodes | historyRead
  | findServers | findServersOnNetwork | getEndpoints | nodeAttributes
  | subModify | subUnmonitor | subSetMonitoringMode | subSetTriggering
  deriving Repr, DecidableEq

inductive Op where
  | plain (p : Plain)
  | call
  | nodeAttribute           -- Node.Attribute / Node.Value
  | nodeClass
  | browseName | description | displayName
  | accessLevel | userAccessLevel       -- also HasAccessLevel / HasUserAccessLevel
  | namespaceArray          -- also FindNamespace / UpdateNamespaces
  | subStats
  | references              -- Node.References / ReferencedNodes / Children → browseNext
  | translate               -- Node.TranslateBrowsePathsToNodeIDs
  | subscribe
  | subCancel               -- Subscription.Cancel → delete
  | subMonitor
  | subModifyItems
  | recreateItems           -- monitor loop: recreateSubscription → recreate_monitoredItems
  | transferOnReconnect     -- monitor loop: transferSubscriptions result loop
  | publish                 -- background publish loop, one PublishResponse
  deriving Repr, DecidableEq

/-- `c.Send(ctx, req, func(v) error { return safeAssign(v, &res) })`: nil error iff the answer is
    of the expected type with a Good ServiceResult -/
def sendOk (k : Kind) : Bool := k == .ok

/-- the Variant the decoder hands out for the first DataValue:
    `DataValue.Decode` always allocates `d.Value = new(Variant)`, so a DataValue
    without the Value bit yields the zero Variant (type Null, value nil), never
    a nil pointer -/
def decodedVal (v : Val) : Val :=
  if v.present then v else ⟨true, .null, false, 0⟩

/-- `Node.Attribute`: error, or the `*ua.Variant` of the first result -/
def nodeAttr (s : Shape) : Option Val :=
  -- res, err := n.c.Read(ctx, req); if err != nil { return nil, err }
  if !sendOk s.kind then none else
  match s.results with
  -- if len(res.Results) == 0 { return nil, ua.StatusBadUnexpectedError }
  | [] => none
  -- Client.Read's handler: `if eo, ok := val.(*ua.ExtensionObject); ok && eo.Value == nil { dv.Status = BadDataTypeIDUnknown }`
  -- (comma-ok: an array of extension objects is not touched)
  -- value := res.Results[0].Value; if res.Results[0].Status != ua.StatusOK { return value, status }
  | st :: _ =>
    let v := decodedVal s.val
    if st && !(v.tid == .extobjNoBody && !v.isArray) then some v else none

/-- `x, ok := v.Value().(T); if !ok { return …, ua.StatusBadTypeMismatch }` for a
    scalar Go type T: an error unless the dynamic type is T (a Null variant
    holds a nil interface, an array holds a slice) -/
def assertScalar (want : Tid) (v : Val) : Outcome :=
  if v.isArray then .error
  else if v.tid == want then .value else .error

/-- `ua.NodeClass(v.Int())` -/
def variantInt (v : Val) : Outcome :=
  -- if m.Has(VariantArrayValues) { return 0 }
  if v.isArray then .value
  -- switch m.Type() { case TypeIDSByte: int64(m.value.(int8)) … case TypeIDInt32: int64(m.value.(int32)) … }
  -- (a scalar of that type id holds a value of that Go type)
  else .value

def getter (s : Shape) (f : Val → Outcome) : Outcome :=
  match nodeAttr s with
  | none => .error
  | some v => f v

/-- the loop of `Node.browseNext` after the first `results[0]`; the head of
    `chain` is the next BrowseNext answer -/
def browseLoop : List (Kind × Nat) → Outcome
  -- len(results[0].ContinuationPoint) == 0: return refs, nil
  | [] => .value
  | (k, n) :: rest =>
    -- resp, err := n.c.BrowseNext(ctx, req); if err != nil { return nil, err }
    if !sendOk k then .error
    -- results = resp.Results; if len(results) == 0 { return nil, ua.StatusBadUnexpectedError }
    else if n = 0 then .error
    else browseLoop rest

def references (s : Shape) : Outcome :=
  -- resp, err := n.c.Browse(ctx, req); if err != nil { return nil, err }
  if !sendOk s.kind then .error
  -- if len(results) == 0 { return nil, ua.StatusBadUnexpectedError }; refs := results[0].References
  else if s.nRes = 0 then .error
  else browseLoop s.chain

/-- `Subscription.delete` -/
def subDelete (s : Shape) : Outcome :=
  if !sendOk s.kind then .error else
  -- case len(res.Results) == 0: return ua.StatusBadUnexpectedError; case res.Results[0] == ua.StatusOK
  match s.results with
  | [] => .error
  | true :: _ => .value
  | false :: _ => .error

/-- `for i, item := range items { result := res.Results[i] … }` from index `i`
    with `todo` items left and `n` results -/
def indexLoop (n : Nat) : (todo i : Nat) → Bool
  | 0, _ => false
  | todo + 1, i => if i < n then indexLoop n todo (i + 1) else true

/-- `Subscription.Monitor` -/
def subMonitor (s : Shape) : Outcome :=
  if !sendOk s.kind then .error
  -- if len(res.Results) != len(items) { return nil, ua.StatusBadUnexpectedError }
  else if s.nRes != s.nReq then .error
  else if indexLoop s.nRes s.nReq 0 then .panic else .value

/-- `for i, res := range res.Results { if res.StatusCode != OK { continue }; id := req.ItemsToModify[i]… }` -/
def modifyLoop (nReq : Nat) : (results : List Bool) → (i : Nat) → Bool
  | [], _ => false
  | st :: rest, i => if !st then modifyLoop nReq rest (i + 1)
                     else if i < nReq then modifyLoop nReq rest (i + 1) else true

/-- `Subscription.ModifyMonitoredItems` -/
def subModifyItems (s : Shape) : Outcome :=
  -- unknown monitored item id: return nil, err (before anything is sent)
  if !s.idsKnown then .error
  else if !sendOk s.kind then .error
  -- if len(res.Results) != len(items) { return nil, ua.StatusBadUnexpectedError }
  else if s.nRes != s.nReq then .error
  else if modifyLoop s.nReq s.results 0 then .panic else .value

/-- `Subscription.recreate_monitoredItems` as the monitor loop sees it (its
    error is logged and dropped by `restoreSubscriptions`), one timestamp group -/
def recreateItems (s : Shape) : Outcome :=
  -- err := s.c.Send(...); if err != nil { return err }
  if !sendOk s.kind then .value
  -- if len(res.Results) != len(items) { return ua.StatusBadUnexpectedError }
  else if s.nRes != s.nReq then .value
  -- for _, result := range res.Results { if status != OK { return status } }
  else if s.results.any (· == false) then .value
  -- for i, item := range items { s.items[res.Results[i].MonitoredItemID] = … }
  else if indexLoop s.nRes s.nReq 0 then .panic else .value

/-- the result loop of `transferSubscriptions` in `Client.monitor`:
    `for i := range res.Results { … subIDs[i] … }` (both branches index subIDs):
    the same loop shape as `indexLoop`, over the results, indexing the ids -/
def transferOnReconnect (s : Shape) : Outcome :=
  -- case err != nil: recreate all subscriptions
  if !sendOk s.kind then .value
  -- case len(res.Results) != len(subIDs): recreate all subscriptions
  else if s.nRes != s.nReq then .value
  else if indexLoop s.nReq s.nRes 0 then .panic else .value

/-- `Client.Subscribe` -/
def subscribe (s : Shape) : Outcome :=
  if !sendOk s.kind then .error
  -- if sub.SubscriptionID == 0 || c.subs[sub.SubscriptionID] != nil { return nil, BadSubscriptionIDInvalid }
  else if s.subIdZero || s.subIdDup then .error else .value

/-- `Node.TranslateBrowsePathsToNodeIDs`; `nReq` stands for the number of targets of the first result -/
def translate (s : Shape) : Outcome :=
  if !sendOk s.kind then .error else
  match s.results with
  | [] => .error                               -- len(resp.Results) == 0
  | false :: _ => .error                        -- StatusCode != OK
  | true :: _ => if s.nReq = 0 then .error else .value   -- len(Targets) == 0

/-- what `notifySubscription` delivers for one NotificationData -/
def notifClass : Notif → Bool      -- true = Value, false = Error
  | .dataChange | .event | .statusChange => true
  | .otherType | .noBody => false

/-- notifications delivered synchronously for one PublishResponse (`true` = a
    value, `false` = an error notification) -/
def publishDelivered (s : Shape) : List Bool :=
  match s.kind with
  | .ok => if s.subKnown then s.notifs.map notifClass else []
  | _ => []

/-- an error notification is sent from a goroutine (`err != nil && res != nil`) -/
def publishAsyncError (s : Shape) : Bool := s.kind == .badStatus

/-- `handleAcks_NeedsSubMuxLock(res)`: `if len(c.pendingAcks) != len(res) { c.pendingAcks = [] }`
    and then `for i, ack := range c.pendingAcks { err := res[i] … }` -/
def handleAcks (pending nRes : Nat) : Outcome :=
  let pending' := if pending != nRes then 0 else pending
  if indexLoop nRes pending' 0 then .panic else .value

/-- one round of `publish()`: only a Good PublishResponse reaches `handleAcks`; every other branch is guarded -/
def publish (s : Shape) : Outcome :=
  match s.kind with
  | .ok => handleAcks s.pendingAcks s.nRes
  | _ => .value

def outcome : Op → Shape → Outcome
  | .plain _, s => if sendOk s.kind then .value else .error
  -- if len(res.Results) != 1 { return nil, ua.StatusBadUnknownResponse }
  | .call, s => if !sendOk s.kind then .error else if s.nRes = 1 then .value else .error
  | .nodeAttribute, s => getter s (fun _ => .value)
  | .nodeClass, s => getter s variantInt
  | .browseName, s => getter s (assertScalar .qname)
  | .description, s => getter s (assertScalar .ltext)
  | .displayName, s => getter s (assertScalar .ltext)
  | .accessLevel, s => getter s (assertScalar .byte)
  | .userAccessLevel, s => getter s (assertScalar .byte)
  -- ns, ok := v.Value().([]string); if !ok { return nil, errors.Errorf(…) }
  | .namespaceArray, s => getter s (fun v => if v.isArray && v.tid == .string then .value else .error)
  -- if v == nil { return nil, errors.Errorf(…) }; eos, ok := v.Value().([]*ua.ExtensionObject); if !ok { error }
  | .subStats, s => getter s (fun _ => .error)    -- (no shape used here carries SubscriptionDiagnostics)
  | .references, s => references s
  | .translate, s => translate s
  | .subscribe, s => subscribe s
  | .subCancel, s => subDelete s
  | .subMonitor, s => subMonitor s
  | .subModifyItems, s => subModifyItems s
  | .recreateItems, s => recreateItems s
  | .transferOnReconnect, s => transferOnReconnect s
  | .publish, s => publish s

inductive Audit where
  | safe (why : String)
  | panics (op : Op)
  deriving Repr, DecidableEq

def auditedSites : List (Site × Audit) := [
  (⟨"client.go", "Client.Call", "index", "Results[_]"⟩, .safe "len(res.Results) != 1 returns before"),
  (⟨"client.go", "Client.Namespaces", "assert", "Load().([]string)"⟩, .safe "only []string is ever stored (NewClient, setNamespaces)"),
  (⟨"client.go", "Client.State", "assert", "Load().(ConnState)"⟩, .safe "only ConnState is ever stored (NewClient, setState)"),
  (⟨"client.go", "Client.monitor", "index", "Results[_]"⟩, .safe "i ranges over res.Results"),
  (⟨"client.go", "Client.monitor", "index", "availableSeqs[_]"⟩, .safe "map"),
  (⟨"client.go", "Client.monitor", "index", "availableSeqs[_]"⟩, .safe "map"),
  (⟨"client.go", "Client.monitor", "index", "subIDs[_]"⟩, .safe "len(res.Results) != len(subIDs) is handled before the loop"),
  (⟨"client.go", "Client.monitor", "index", "subIDs[_]"⟩, .safe "len(res.Results) != len(subIDs) is handled before the loop"),
  (⟨"client.go", "Client.monitor", "index", "subIDs[_]"⟩, .safe "len(res.Results) != len(subIDs) is handled before the loop"),
  (⟨"client.go", "Client.monitor", "index", "subIDs[_]"⟩, .safe "len(res.Results) != len(subIDs) is handled before the loop"),
  (⟨"client.go", "Client.publishTimeout", "assert", "Load().(time.Duration)"⟩, .safe "only time.Duration is ever stored"),
  (⟨"client.go", "SelectEndpoint", "index", "endpoints[_]"⟩, .safe "len(endpoints) == 0 returns before"),
  (⟨"client.go", "bySecurityLevel.Less", "index", "a[_]"⟩, .safe "sort.Interface contract"),
  (⟨"client.go", "bySecurityLevel.Less", "index", "a[_]"⟩, .safe "sort.Interface contract"),
  (⟨"client.go", "bySecurityLevel.Swap", "index", "a[_]"⟩, .safe "sort.Interface contract"),
  (⟨"client.go", "bySecurityLevel.Swap", "index", "a[_]"⟩, .safe "sort.Interface contract"),
  (⟨"client.go", "bySecurityLevel.Swap", "index", "a[_]"⟩, .safe "sort.Interface contract"),
  (⟨"client.go", "bySecurityLevel.Swap", "index", "a[_]"⟩, .safe "sort.Interface contract"),
  (⟨"client.go", "cloneBrowseRequest", "index", "descs[_]"⟩, .safe "descs has len(req.NodesToBrowse), request side"),
  (⟨"client.go", "cloneReadRequest", "index", "rvs[_]"⟩, .safe "rvs has len(req.NodesToRead), request side"),
  (⟨"client_sub.go", "Client.Subscribe", "index", "subs[_]"⟩, .safe "map"),
  (⟨"client_sub.go", "Client.Subscribe", "index", "subs[_]"⟩, .safe "map"),
  (⟨"client_sub.go", "Client.handleAcks_NeedsSubMuxLock", "index", "res[_]"⟩, .safe "pendingAcks is emptied when the lengths differ"),
  (⟨"client_sub.go", "Client.notifySubscriptionOfError", "index", "subs[_]"⟩, .safe "map"),
  (⟨"client_sub.go", "Client.publish", "index", "subs[_]"⟩, .safe "map"),
  (⟨"client_sub.go", "Client.recreateSubscription", "index", "subs[_]"⟩, .safe "map"),
  (⟨"client_sub.go", "Client.registerSubscription_NeedsSubMuxLock", "index", "subs[_]"⟩, .safe "map"),
  (⟨"client_sub.go", "Client.registerSubscription_NeedsSubMuxLock", "index", "subs[_]"⟩, .safe "map"),
  (⟨"client_sub.go", "Client.republishSubscription", "index", "subs[_]"⟩, .safe "map"),
  (⟨"monitor/subscription.go", "Subscription.AddMonitorItems", "index", "handles[_]"⟩, .safe "map"),
  (⟨"monitor/subscription.go", "Subscription.AddMonitorItems", "index", "itemLookup[_]"⟩, .safe "map"),
  (⟨"monitor/subscription.go", "Subscription.AddMonitorItems", "index", "nodes[_]"⟩, .safe "i ranges over nodes / len(resp.Results) == len(toAdd) checked"),
  (⟨"monitor/subscription.go", "Subscription.AddMonitorItems", "index", "nodes[_]"⟩, .safe "i ranges over nodes / len(resp.Results) == len(toAdd) checked"),
  (⟨"monitor/subscription.go", "Subscription.AddMonitorItems", "index", "nodes[_]"⟩, .safe "i ranges over nodes / len(resp.Results) == len(toAdd) checked"),
  (⟨"monitor/subscription.go", "Subscription.AddMonitorItems", "index", "nodes[_]"⟩, .safe "i ranges over nodes / len(resp.Results) == len(toAdd) checked"),
  (⟨"monitor/subscription.go", "Subscription.AddMonitorItems", "index", "toAdd[_]"⟩, .safe "len(resp.Results) == len(toAdd) checked"),
  (⟨"monitor/subscription.go", "Subscription.AddMonitorItems", "index", "toAdd[_]"⟩, .safe "len(resp.Results) == len(toAdd) checked"),
  (⟨"monitor/subscription.go", "Subscription.AddNodeIDs", "index", "requests[_]"⟩, .safe "requests has len(nodes), request side"),
  (⟨"monitor/subscription.go", "Subscription.RemoveMonitorItems", "index", "itemLookup[_]"⟩, .safe "map"),
  (⟨"monitor/subscription.go", "Subscription.pump", "index", "handles[_]"⟩, .safe "map"),
  (⟨"monitor/subscription.go", "parseNodeSlice", "index", "nodeIDs[_]"⟩, .safe "nodeIDs has len(nodes), request side"),
  (⟨"node.go", "Node.Attribute", "index", "Results[_]"⟩, .safe "len(res.Results) == 0 returns before"),
  (⟨"node.go", "Node.Attribute", "index", "Results[_]"⟩, .safe "len(res.Results) == 0 returns before"),
  (⟨"node.go", "Node.Attribute", "index", "Results[_]"⟩, .safe "len(res.Results) == 0 returns before"),
  (⟨"node.go", "Node.TranslateBrowsePathsToNodeIDs", "index", "BrowsePaths[_]"⟩, .safe "request literal with one element"),
  (⟨"node.go", "Node.TranslateBrowsePathsToNodeIDs", "index", "BrowsePaths[_]"⟩, .safe "request literal with one element"),
  (⟨"node.go", "Node.TranslateBrowsePathsToNodeIDs", "index", "Results[_]"⟩, .safe "len(resp.Results) == 0 returns before"),
  (⟨"node.go", "Node.TranslateBrowsePathsToNodeIDs", "index", "Results[_]"⟩, .safe "len(resp.Results) == 0 returns before"),
  (⟨"node.go", "Node.TranslateBrowsePathsToNodeIDs", "index", "Results[_]"⟩, .safe "len(resp.Results) == 0 returns before"),
  (⟨"node.go", "Node.TranslateBrowsePathsToNodeIDs", "index", "Results[_]"⟩, .safe "len(resp.Results) == 0 returns before"),
  (⟨"node.go", "Node.TranslateBrowsePathsToNodeIDs", "index", "Targets[_]"⟩, .safe "len(Targets) == 0 returns before"),
  (⟨"node.go", "Node.browseNext", "index", "results[_]"⟩, .safe "len(results) == 0 returns before"),
  (⟨"node.go", "Node.browseNext", "index", "results[_]"⟩, .safe "len(results) == 0 returns before"),
  (⟨"node.go", "Node.browseNext", "index", "results[_]"⟩, .safe "len(results) == 0 returns before"),
  (⟨"node.go", "Node.browseNext", "index", "results[_]"⟩, .safe "len(results) == 0 returns before"),
  (⟨"subscription.go", "Subscription.ModifyMonitoredItems", "index", "ItemsToModify[_]"⟩, .safe "len(res.Results) != len(items) returns before"),
  (⟨"subscription.go", "Subscription.ModifyMonitoredItems", "index", "ItemsToModify[_]"⟩, .safe "len(res.Results) != len(items) returns before"),
  (⟨"subscription.go", "Subscription.ModifyMonitoredItems", "index", "items[_]"⟩, .safe "map"),
  (⟨"subscription.go", "Subscription.ModifyMonitoredItems", "index", "items[_]"⟩, .safe "map; the entry exists for every i < len(items) (checked before sending)"),
  (⟨"subscription.go", "Subscription.Monitor", "index", "Results[_]"⟩, .safe "len(res.Results) != len(items) returns before"),
  (⟨"subscription.go", "Subscription.Monitor", "index", "items[_]"⟩, .safe "map"),
  (⟨"subscription.go", "Subscription.SetMonitoringMode", "index", "items[_]"⟩, .safe "map"),
  (⟨"subscription.go", "Subscription.delete", "index", "Results[_]"⟩, .safe "len(res.Results) == 0 returns before"),
  (⟨"subscription.go", "Subscription.delete", "index", "Results[_]"⟩, .safe "len(res.Results) == 0 returns before"),
  (⟨"subscription.go", "Subscription.recreate_monitoredItems", "index", "Results[_]"⟩, .safe "len(res.Results) != len(items) returns before"),
  (⟨"subscription.go", "Subscription.recreate_monitoredItems", "index", "Results[_]"⟩, .safe "len(res.Results) != len(items) returns before"),
  (⟨"subscription.go", "Subscription.recreate_monitoredItems", "index", "itemsByTimestamps[_]"⟩, .safe "map"),
  (⟨"subscription.go", "Subscription.recreate_monitoredItems", "index", "itemsByTimestamps[_]"⟩, .safe "map"),
  (⟨"subscription.go", "Subscription.recreate_monitoredItems", "index", "items[_]"⟩, .safe "map")
]

/-- the scalar type a typed getter expects -/
def wantTid : Op → Option Tid
  | .browseName => some .qname
  | .description | .displayName => some .ltext
  | .accessLevel | .userAccessLevel => some .byte
  | _ => none

/-- a conforming answer: expected type and Good, exactly one Good-or-Bad result
    per request item and at least one, a scalar Variant of the type the getter
    expects, no empty BrowseNext result -/
def conforming (op : Op) (s : Shape) : Prop :=
  s.kind = .ok ∧ s.nRes = s.nReq ∧ 0 < s.nRes ∧ s.val.present = true ∧ s.val.isArray = false ∧
  (∀ t, wantTid op = some t → s.val.tid = t) ∧ (∀ kn ∈ s.chain, kn.2 ≠ 0)

def Shape.good : Shape :=
  { kind := .ok, nReq := 1, results := [true], val := ⟨true, .int32, false, 0⟩, chain := [],
    subIdZero := false, subIdDup := false, idsKnown := true, subKnown := true, notifs := [], pendingAcks := 0 }

def auditAllSafe : Bool :=
  auditedSites.all fun p =>
    match p.2 with
    | .safe _ => true
    | .panics _ => false

/-- the shapes that made the unrepaired code panic, with the operation they
    belong to -/
def oldWitnesses : List (Op × Shape) := [
  (.subCancel, { Shape.good with results := [] }),
  (.subMonitor, { Shape.good with nReq := 2, results := [true] }),
  (.subModifyItems, { Shape.good with nReq := 1, results := [true, true] }),
  (.recreateItems, { Shape.good with nReq := 2, results := [true] }),
  (.transferOnReconnect, { Shape.good with nReq := 0, results := [true] }),
  (.references, { Shape.good with results := [] }),
  (.references, { Shape.good with chain := [(.ok, 0)] }),
  (.browseName, Shape.good), (.description, Shape.good), (.displayName, Shape.good),
  (.accessLevel, Shape.good), (.userAccessLevel, Shape.good),
  (.nodeClass, { Shape.good with val := ⟨true, .int32, true, 0⟩ })]

attribute [simp] sendOk

theorem indexLoop_iff (n todo i : Nat) : indexLoop n todo i = true ↔ (0 < todo ∧ n < i + todo) := by
  induction todo generalizing i with
  | zero => simp [indexLoop]
  | succ t ih =>
    unfold indexLoop
    split
    · rw [ih]; omega
    · simp; omega

theorem indexLoop_zero_eq (n todo : Nat) : indexLoop n todo 0 = decide (n < todo) := by
  rw [Bool.eq_iff_iff, indexLoop_iff]; simp; omega

theorem browseLoop_ne_panic' (chain : List (Kind × Nat)) : browseLoop chain ≠ .panic := by
  induction chain with
  | nil => nofun
  | cons kn rest ih =>
    unfold browseLoop
    repeat' split
    · nofun
    · nofun
    · exact ih

theorem browseLoop_ne_panic (chain : List (Kind × Nat)) (h : ∀ kn ∈ chain, kn.2 ≠ 0) :
    browseLoop chain ≠ .panic := by
  -- holds without `h` (`browseLoop_ne_panic'`); `h` is only passed along
  exact (fun _ => browseLoop_ne_panic' chain) h

theorem modifyLoop_eq (nReq : Nat) (rs : List Bool) (i : Nat) :
    modifyLoop nReq rs i = (rs.drop (nReq - i)).any (· == true) := by
  induction rs generalizing i with
  | nil => simp [modifyLoop]
  | cons st rest ih =>
    by_cases h : i < nReq
    · have : nReq - i = (nReq - (i + 1)) + 1 := by omega
      simp [modifyLoop, h, ih, this]
    · have h0 : nReq - i = 0 := by omega
      have h1 : nReq - (i + 1) = 0 := by omega
      cases st <;> simp [modifyLoop, h, ih, h0, h1]

/-! After the length check the loop stays inside the array: each operation is its guards. -/

theorem handleAcks_eq (pending nRes : Nat) : handleAcks pending nRes = .value := by
  unfold handleAcks
  by_cases h : pending = nRes <;> simp [h, indexLoop_zero_eq]

theorem publish_eq (s : Shape) : publish s = .value := by
  unfold publish; split <;> simp [handleAcks_eq]

theorem subMonitor_eq (s : Shape) :
    subMonitor s = if !sendOk s.kind then .error else if s.nRes != s.nReq then .error else .value := by
  unfold subMonitor
  by_cases h : s.nRes = s.nReq <;> simp [h, indexLoop_zero_eq]

theorem subModifyItems_eq (s : Shape) :
    subModifyItems s =
      if !s.idsKnown then .error else if !sendOk s.kind then .error
      else if s.nRes != s.nReq then .error else .value := by
  unfold subModifyItems
  by_cases h : s.nRes = s.nReq
  · have : List.drop s.nReq s.results = [] := List.drop_eq_nil_of_le (Nat.le_of_eq h)
    simp [h, modifyLoop_eq, this]
  · simp [h]

theorem recreateItems_eq (s : Shape) : recreateItems s = .value := by
  unfold recreateItems
  by_cases h : s.nRes = s.nReq <;> simp [h, indexLoop_zero_eq]

theorem transferOnReconnect_eq (s : Shape) : transferOnReconnect s = .value := by
  unfold transferOnReconnect
  by_cases h : s.nRes = s.nReq <;> simp [h, indexLoop_zero_eq]

end Opcua.ClientResp
