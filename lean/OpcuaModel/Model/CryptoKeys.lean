import OpcuaModel.Base.Bytes
import OpcuaModel.Model.CryptoRef
/-
  Symmetric key derivation (C14, used by the C07/C08 drivers).

  Implementation side
    `generateKeys`   uapolicy/crypto_key.go:45 (the loop, with fuel)
    `KeyAssign`      what one `new…Symmetric(localNonce, remoteNonce)` constructor
                     of uapolicy/policy*.go does: two `generateKeys` calls and
                     which key set feeds encrypt / decrypt / signature /
                     verifySignature.  The rows are generated from the source
                     (`Gen/KeyAssign.lean`, topic `keyassign`).
    `symmetric`      the keys an `EncryptionAlgorithm` ends up with

  Specification side (written from OPC UA Part 6 §6.7.5 and RFC 5246 §5,
  independently of the Go code)
    `Spec.pSha`      P_hash by the A(i) recursion
    `Spec.derive`    signing key ‖ encrypting key ‖ IV at offsets 0, a, a+b
    `Spec.clientKeys` / `Spec.serverKeys`   Table "Cryptography key generation parameters"
    `Spec.profiles`  hash and key lengths of each security policy (Part 7)

  Everything is parametric in the keyed hash `hmac : HashAlg → secret → msg → mac`.
-/
namespace Opcua.Keys
open Opcua Opcua.CryptoRef

/-! ### implementation side -/

structure DerivedKeys where
  signing : Bytes
  encryption : Bytes
  iv : Bytes
  deriving Repr, DecidableEq

/-- the `for len(p) < total` loop of `generateKeys`; `h` is `hmac.Signature`
    (the secret is fixed), `a` the running A(i).  Fuel = `total` iterations are
    enough whenever the hash output is not empty (`genLoop_take`). -/
def genLoop (h : Bytes → Bytes) (seed : Bytes) (total : Nat) : Nat → Bytes → Bytes → Bytes
  | 0, p, _ => p
  | fuel + 1, p, a =>
    if p.length < total then genLoop h seed total fuel (p ++ h (a ++ seed)) (h a) else p

/-- `generateKeys(hmac, seed, signingLength, encryptingLength, encryptingBlockSize)` -/
def generateKeys (h : Bytes → Bytes) (seed : Bytes) (sl el bl : Nat) : DerivedKeys :=
  let p := genLoop h seed (sl + el + bl) (sl + el + bl) [] (h seed)
  { signing := p.take sl, encryption := (p.drop sl).take el, iv := (p.drop (sl + el)).take bl }

inductive NonceSel | localNonce | remoteNonce
  deriving Repr, DecidableEq

inductive KeySetSel | first | second
  deriving Repr, DecidableEq

/-- one `generateKeys(&HMAC{Hash, Secret}, seed, a, b, c)` call of a constructor -/
structure KeySetSpec where
  hash : HashAlg
  secret : NonceSel
  seed : NonceSel
  sigLen : Nat
  encLen : Nat
  ivLen : Nat
  deriving Repr, DecidableEq

/-- a symmetric constructor: `first` is the key set assigned to the variable
    `localKeys`, `second` the one assigned to `remoteKeys` -/
structure KeyAssign where
  name : String
  first : KeySetSpec
  second : KeySetSpec
  encrypt : KeySetSel
  encryptKeyBits : Nat
  decrypt : KeySetSel
  decryptKeyBits : Nat
  signature : KeySetSel
  signatureHash : HashAlg
  verify : KeySetSel
  verifyHash : HashAlg
  signatureLength : Nat
  deriving Repr, DecidableEq

def NonceSel.pick (s : NonceSel) (localNonce remoteNonce : Bytes) : Bytes :=
  match s with
  | .localNonce => localNonce
  | .remoteNonce => remoteNonce

def KeySetSpec.derive (k : KeySetSpec) (hmac : HashAlg → Bytes → Bytes → Bytes) (ln rn : Bytes) : DerivedKeys :=
  generateKeys (hmac k.hash (k.secret.pick ln rn)) (k.seed.pick ln rn) k.sigLen k.encLen k.ivLen

/-- the keys inside the `EncryptionAlgorithm` a constructor returns -/
structure SymKeys where
  encryptKey : Bytes
  encryptIV : Bytes
  decryptKey : Bytes
  decryptIV : Bytes
  signKey : Bytes
  verifyKey : Bytes
  deriving Repr, DecidableEq

def KeyAssign.keySet (ka : KeyAssign) (hmac : HashAlg → Bytes → Bytes → Bytes) (ln rn : Bytes) :
    KeySetSel → DerivedKeys
  | .first => ka.first.derive hmac ln rn
  | .second => ka.second.derive hmac ln rn

/-- `uapolicy.Symmetric(uri, localNonce, remoteNonce)` -/
def symmetric (ka : KeyAssign) (hmac : HashAlg → Bytes → Bytes → Bytes) (ln rn : Bytes) : SymKeys :=
  { encryptKey := (ka.keySet hmac ln rn ka.encrypt).encryption,
    encryptIV := (ka.keySet hmac ln rn ka.encrypt).iv,
    decryptKey := (ka.keySet hmac ln rn ka.decrypt).encryption,
    decryptIV := (ka.keySet hmac ln rn ka.decrypt).iv,
    signKey := (ka.keySet hmac ln rn ka.signature).signing,
    verifyKey := (ka.keySet hmac ln rn ka.verify).signing }

/-- keys used for what this side sends / receives -/
structure DirKeys where
  signing : Bytes
  encrypting : Bytes
  iv : Bytes
  deriving Repr, DecidableEq

def SymKeys.send (k : SymKeys) : DirKeys := ⟨k.signKey, k.encryptKey, k.encryptIV⟩
def SymKeys.recv (k : SymKeys) : DirKeys := ⟨k.verifyKey, k.decryptKey, k.decryptIV⟩

/-! ### specification side -/
namespace Spec

/-- A(0) = seed, A(i) = HMAC_hash(secret, A(i-1))   (RFC 5246 §5) -/
def A (h : Bytes → Bytes) (seed : Bytes) : Nat → Bytes
  | 0 => seed
  | i + 1 => h (A h seed i)

/-- HMAC_hash(secret, A(i) + seed) -/
def block (h : Bytes → Bytes) (seed : Bytes) (i : Nat) : Bytes := h (A h seed i ++ seed)

/-- `k` consecutive blocks starting with block `i` -/
def stream (h : Bytes → Bytes) (seed : Bytes) : Nat → Nat → Bytes
  | 0, _ => []
  | k + 1, i => block h seed i ++ stream h seed k (i + 1)

/-- P_hash(secret, seed) truncated to `n` bytes: the first `n` bytes of
    block 1 ‖ block 2 ‖ …  (`n` blocks always suffice for a non-empty hash) -/
def pSha (h : Bytes → Bytes) (seed : Bytes) (n : Nat) : Bytes := (stream h seed n 1).take n

/-- PRF(secret, seed, length, offset) of Part 6 §6.7.5 for the three keys -/
def derive (h : Bytes → Bytes) (seed : Bytes) (sl el bl : Nat) : DirKeys :=
  let p := pSha h seed (sl + el + bl)
  { signing := p.take sl, encrypting := (p.drop sl).take el, iv := (p.drop (sl + el)).take bl }

/-- hash and key lengths of a security policy (Part 7 profiles):
    KeyDerivationAlgorithm / SymmetricSignatureAlgorithm hash,
    DerivedSignatureKeyLength, SymmetricEncryptionAlgorithm key length and
    block size, all in bytes -/
structure Profile where
  name : String
  hash : HashAlg
  sigKeyLen : Nat
  encKeyLen : Nat
  blockLen : Nat
  sigLen : Nat
  deriving Repr, DecidableEq

def profiles : List Profile := [
  { name := "Aes128_Sha256_RsaOaep", hash := .sha256, sigKeyLen := 32, encKeyLen := 16, blockLen := 16, sigLen := 32 },
  { name := "Aes256_Sha256_RsaPss", hash := .sha256, sigKeyLen := 32, encKeyLen := 32, blockLen := 16, sigLen := 32 },
  { name := "Basic128Rsa15", hash := .sha1, sigKeyLen := 16, encKeyLen := 16, blockLen := 16, sigLen := 20 },
  { name := "Basic256", hash := .sha1, sigKeyLen := 24, encKeyLen := 32, blockLen := 16, sigLen := 20 },
  { name := "Basic256Sha256", hash := .sha256, sigKeyLen := 32, encKeyLen := 32, blockLen := 16, sigLen := 32 } ]

/-- Client keys: Secret = ServerNonce, Seed = ClientNonce -/
def clientKeys (p : Profile) (hmac : HashAlg → Bytes → Bytes → Bytes) (clientNonce serverNonce : Bytes) : DirKeys :=
  derive (hmac p.hash serverNonce) clientNonce p.sigKeyLen p.encKeyLen p.blockLen

/-- Server keys: Secret = ClientNonce, Seed = ServerNonce -/
def serverKeys (p : Profile) (hmac : HashAlg → Bytes → Bytes → Bytes) (clientNonce serverNonce : Bytes) : DirKeys :=
  derive (hmac p.hash clientNonce) serverNonce p.sigKeyLen p.encKeyLen p.blockLen

end Spec

/-! ### `generateKeys` computes the specification's P_hash -/

section
/- standing hypotheses of the P_hash lemmas: `h` is the keyed hash with the secret fixed, every
   output has `hl` bytes, and (from `take_stream` on) `hl` is not 0 -/
variable {h : Bytes → Bytes} {seed : Bytes} {hl : Nat} (hpos : 0 < hl) (hh : ∀ m, (h m).length = hl)

theorem stream_append (k d i : Nat) :
    Spec.stream h seed (k + d) i = Spec.stream h seed k i ++ Spec.stream h seed d (i + k) := by
  induction k generalizing i with
  | zero => simp [Spec.stream]
  | succ k ih =>
    rw [Nat.succ_add]
    simp only [Spec.stream, ih, List.append_assoc]
    congr 3; omega

include hh

theorem stream_length (k i : Nat) : (Spec.stream h seed k i).length = k * hl := by
  induction k generalizing i with
  | zero => simp [Spec.stream]
  | succ k ih => simp [Spec.stream, Spec.block, hh, ih, Nat.succ_mul]; omega

/-- the loop, started after `j` blocks, stops after some `k` blocks with at least `total` bytes,
    provided the fuel lasts -/
theorem genLoop_spec (total fuel j : Nat) (hf : total ≤ (j + fuel) * hl) :
    ∃ k, total ≤ k * hl ∧
      genLoop h seed total fuel (Spec.stream h seed j 1) (Spec.A h seed (j + 1)) = Spec.stream h seed k 1 := by
  induction fuel generalizing j with
  | zero => exact ⟨j, hf, rfl⟩
  | succ fuel ih =>
    rw [genLoop, stream_length hh]
    by_cases hlt : j * hl < total
    · rw [if_pos hlt]
      have e : Spec.stream h seed j 1 ++ h (Spec.A h seed (j + 1) ++ seed) = Spec.stream h seed (j + 1) 1 := by
        rw [stream_append j 1 1, Nat.add_comm 1 j]; simp [Spec.stream, Spec.block]
      rw [e]
      exact ih (j + 1) (by rwa [Nat.add_right_comm, Nat.add_assoc])
    · rw [if_neg hlt]
      exact ⟨j, Nat.le_of_not_lt hlt, rfl⟩

include hpos

/-- P_hash truncated to `n` bytes is the first `n` bytes of ANY run of blocks 1, 2, … that is long enough -/
theorem take_stream (n k : Nat) (hk : n ≤ k * hl) : (Spec.stream h seed k 1).take n = Spec.pSha h seed n := by
  have hn : n ≤ n * hl := Nat.le_mul_of_pos_right n hpos
  rw [Spec.pSha]
  -- the shorter of the two runs is a prefix of the longer, and the `n` bytes lie within it
  rcases Nat.le_total k n with hkn | hkn
  · obtain ⟨d, rfl⟩ := Nat.exists_eq_add_of_le hkn
    rw [stream_append, List.take_append_of_le_length (by rw [stream_length hh]; exact hk)]
  · obtain ⟨d, rfl⟩ := Nat.exists_eq_add_of_le hkn
    rw [stream_append, List.take_append_of_le_length (by rw [stream_length hh]; exact hn)]

theorem genLoop_take (total : Nat) :
    (genLoop h seed total total [] (h seed)).take total = Spec.pSha h seed total := by
  obtain ⟨k, k3, k4⟩ := genLoop_spec (seed := seed) hh total total 0
    (by rw [Nat.zero_add]; exact Nat.le_mul_of_pos_right _ hpos)
  exact (congrArg (List.take total) k4).trans (take_stream hpos hh total k k3)

theorem pSha_length (n : Nat) : (Spec.pSha h seed n).length = n := by
  rw [Spec.pSha, List.length_take, stream_length hh]
  exact Nat.min_eq_left (Nat.le_mul_of_pos_right n hpos)

/-- P_hash is one stream: a longer request only extends what a shorter one returns -/
theorem pSha_take {n m : Nat} (hnm : n ≤ m) : (Spec.pSha h seed m).take n = Spec.pSha h seed n := by
  rw [Spec.pSha, List.take_take, Nat.min_eq_left hnm]
  exact take_stream hpos hh n m (Nat.le_trans hnm (Nat.le_mul_of_pos_right m hpos))

end

/-! ### cutting the three keys -/

/-- the three keys cut from a byte string at offsets 0, a, a+b: what both `generateKeys` and
    `Spec.derive` do with their P_hash output -/
def cut (p : Bytes) (a b c : Nat) : DirKeys := ⟨p.take a, (p.drop a).take b, (p.drop (a + b)).take c⟩

/-- `DerivedKeys` and `DirKeys` are the same triple -/
def dir (k : DerivedKeys) : DirKeys := ⟨k.signing, k.encryption, k.iv⟩

theorem cut_take (p : Bytes) (a b c : Nat) : cut (p.take (a + b + c)) a b c = cut p a b c := by
  simp only [cut, List.take_take, List.take_drop]
  rw [Nat.min_eq_left (Nat.le_add_right (a + b) c), Nat.min_self, Nat.min_eq_left (by omega)]

theorem cut_lengths (p : Bytes) (a b c : Nat) (hp : a + b + c ≤ p.length) :
    (cut p a b c).signing.length = a ∧ (cut p a b c).encrypting.length = b ∧ (cut p a b c).iv.length = c := by
  obtain ⟨h1, h2, h3⟩ : a ≤ p.length ∧ b ≤ p.length - a ∧ c ≤ p.length - (a + b) := by omega
  simp only [cut, List.length_take, List.length_drop]
  exact ⟨Nat.min_eq_left h1, Nat.min_eq_left h2, Nat.min_eq_left h3⟩

theorem cut_append (p : Bytes) (a b c : Nat) (hp : p.length ≤ a + b + c) :
    (cut p a b c).signing ++ ((cut p a b c).encrypting ++ (cut p a b c).iv) = p := by
  simp only [cut]
  rw [List.take_of_length_le (l := p.drop (a + b)) (by simp only [List.length_drop]; omega),
    ← List.drop_drop, List.take_append_drop, List.take_append_drop]

theorem derive_eq_cut (h : Bytes → Bytes) (seed : Bytes) (a b c : Nat) :
    Spec.derive h seed a b c = cut (Spec.pSha h seed (a + b + c)) a b c := rfl

theorem generateKeys_eq_cut (h : Bytes → Bytes) (seed : Bytes) (a b c : Nat) :
    dir (generateKeys h seed a b c) = cut (genLoop h seed (a + b + c) (a + b + c) [] (h seed)) a b c := rfl

/-- `generateKeys` = the specification's key slices of P_hash -/
theorem generateKeys_dir {h : Bytes → Bytes} {seed : Bytes} {hl : Nat} (hpos : 0 < hl)
    (hh : ∀ m, (h m).length = hl) (a b c : Nat) :
    dir (generateKeys h seed a b c) = Spec.derive h seed a b c := by
  rw [generateKeys_eq_cut, derive_eq_cut, ← cut_take, genLoop_take hpos hh]

theorem derive_lengths {h : Bytes → Bytes} {seed : Bytes} {hl : Nat} (hpos : 0 < hl)
    (hh : ∀ m, (h m).length = hl) (a b c : Nat) :
    (Spec.derive h seed a b c).signing.length = a ∧ (Spec.derive h seed a b c).encrypting.length = b ∧
    (Spec.derive h seed a b c).iv.length = c :=
  derive_eq_cut h seed a b c ▸ cut_lengths _ a b c (Nat.le_of_eq (pSha_length hpos hh _).symm)

/-! ### which key set a constructor uses for what -/

/-- the `generateKeys` call behind a key set -/
def KeyAssign.setSpec (ka : KeyAssign) : KeySetSel → KeySetSpec
  | .first => ka.first
  | .second => ka.second

theorem keySet_eq (ka : KeyAssign) (hmac : HashAlg → Bytes → Bytes → Bytes) (ln rn : Bytes) (s : KeySetSel) :
    ka.keySet hmac ln rn s = (ka.setSpec s).derive hmac ln rn := by cases s <;> rfl

/-- what a constructor sends with (signature, encrypt) is derived with secret = remote nonce,
    seed = local nonce, what it receives with (verify, decrypt) the other way round; hash and
    lengths are those of `first` -/
@[reducible] def Directed (ka : KeyAssign) : Prop :=
  ka.setSpec ka.signature = { ka.first with secret := .remoteNonce, seed := .localNonce } ∧
  ka.setSpec ka.encrypt = { ka.first with secret := .remoteNonce, seed := .localNonce } ∧
  ka.setSpec ka.verify = { ka.first with secret := .localNonce, seed := .remoteNonce } ∧
  ka.setSpec ka.decrypt = { ka.first with secret := .localNonce, seed := .remoteNonce }

theorem symmetric_send {ka : KeyAssign} (hd : Directed ka) (hmac : HashAlg → Bytes → Bytes → Bytes) (ln rn : Bytes) :
    (symmetric ka hmac ln rn).send =
      dir (generateKeys (hmac ka.first.hash rn) ln ka.first.sigLen ka.first.encLen ka.first.ivLen) := by
  simp only [symmetric, SymKeys.send, keySet_eq, hd.1, hd.2.1]; rfl

theorem symmetric_recv {ka : KeyAssign} (hd : Directed ka) (hmac : HashAlg → Bytes → Bytes → Bytes) (ln rn : Bytes) :
    (symmetric ka hmac ln rn).recv =
      dir (generateKeys (hmac ka.first.hash ln) rn ka.first.sigLen ka.first.encLen ka.first.ivLen) := by
  simp only [symmetric, SymKeys.recv, keySet_eq, hd.2.2.1, hd.2.2.2]; rfl

theorem symmetric_mirror {ka : KeyAssign} (hd : Directed ka) (hmac : HashAlg → Bytes → Bytes → Bytes) (x y : Bytes) :
    (symmetric ka hmac y x).recv = (symmetric ka hmac x y).send :=
  (symmetric_recv hd hmac y x).trans (symmetric_send hd hmac x y).symm

theorem outLen_pos (alg : HashAlg) : 0 < alg.outLen := by cases alg <;> decide

/-- a directed constructor sends with the specification's keys for (secret = remote nonce, seed = local nonce) -/
theorem symmetric_send_spec {ka : KeyAssign} (hd : Directed ka) (hmac : HashAlg → Bytes → Bytes → Bytes)
    (hlen : ∀ alg key m, (hmac alg key m).length = alg.outLen) (ln rn : Bytes) :
    (symmetric ka hmac ln rn).send =
      Spec.derive (hmac ka.first.hash rn) ln ka.first.sigLen ka.first.encLen ka.first.ivLen :=
  (symmetric_send hd hmac ln rn).trans (generateKeys_dir (outLen_pos _) (hlen _ rn) _ _ _)

end Opcua.Keys
