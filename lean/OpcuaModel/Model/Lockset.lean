/-
  Lockset soundness: a consistent locking discipline (every write of x under the write lock l,
  every read of x under l in either mode) implies that all conflicting accesses of x are ordered
  by happens-before (program order + mutex edges + goroutine start).  Core Lean only.
-/
namespace Opcua.Lockset

/-- operations of a thread; L = mutex names, X = shared locations -/
inductive Op (L X : Type) where
  | acq (l : L)    -- Lock()   returns
  | rel (l : L)    -- Unlock()
  | racq (l : L)   -- RLock()  returns
  | rrel (l : L)   -- RUnlock()
  | rd (x : X)
  | wr (x : X)
  | fork (child : Nat)   -- go statement starting thread `child`
  | other                -- anything else (channel ops, atomics: they only add order; ignoring them is conservative)
  deriving DecidableEq, Repr

structure Ev (L X : Type) where
  tid : Nat
  op : Op L X
  deriving DecidableEq, Repr

abbrev Trace (L X : Type) := List (Ev L X)

variable {L X : Type}

/-- thread t holds l in write mode just before position j -/
def HoldsW (tr : Trace L X) (t : Nat) (l : L) (j : Nat) : Prop :=
  ∃ k, k < j ∧ tr[k]? = some ⟨t, .acq l⟩ ∧ ∀ m, k < m → m < j → tr[m]? ≠ some ⟨t, .rel l⟩
/-- thread t holds l in read mode just before position j -/
def HoldsR (tr : Trace L X) (t : Nat) (l : L) (j : Nat) : Prop :=
  ∃ k, k < j ∧ tr[k]? = some ⟨t, .racq l⟩ ∧ ∀ m, k < m → m < j → tr[m]? ≠ some ⟨t, .rrel l⟩
def HoldsAny (tr : Trace L X) (t : Nat) (l : L) (j : Nat) : Prop := HoldsW tr t l j ∨ HoldsR tr t l j

/-- well-formed traces: mutual exclusion of every mutex (writers exclusive, readers shared), a thread only
    releases what it holds, a forked thread has no earlier events -/
structure WF (tr : Trace L X) : Prop where
  acq_excl  : ∀ k t l, tr[k]? = some ⟨t, .acq l⟩ → ∀ t', ¬ HoldsAny tr t' l k
  racq_excl : ∀ k t l, tr[k]? = some ⟨t, .racq l⟩ → ∀ t', ¬ HoldsW tr t' l k
  rel_held  : ∀ k t l, tr[k]? = some ⟨t, .rel l⟩ → HoldsW tr t l k
  rrel_held : ∀ k t l, tr[k]? = some ⟨t, .rrel l⟩ → HoldsR tr t l k
  fork_fresh : ∀ (k t c : Nat), tr[k]? = some ⟨t, .fork c⟩ → c ≠ t ∧ ∀ (m : Nat) (e : Ev L X), m < k → tr[m]? = some e → e.tid ≠ c

/-- happens-before of the Go memory model restricted to program order, mutexes and goroutine start -/
inductive HB (tr : Trace L X) : Nat → Nat → Prop where
  | po {i j t a b} : i < j → tr[i]? = some ⟨t, a⟩ → tr[j]? = some ⟨t, b⟩ → HB tr i j
  | relAcq {i j t u l} : i < j → tr[i]? = some ⟨t, .rel l⟩ →
      (tr[j]? = some ⟨u, .acq l⟩ ∨ tr[j]? = some ⟨u, .racq l⟩) → HB tr i j
  | rrelAcq {i j t u l} : i < j → tr[i]? = some ⟨t, .rrel l⟩ → tr[j]? = some ⟨u, .acq l⟩ → HB tr i j
  | fork {i j t c b} : i < j → tr[i]? = some ⟨t, .fork c⟩ → tr[j]? = some ⟨c, b⟩ → HB tr i j
  | trans {i j k} : HB tr i j → HB tr j k → HB tr i k

def Op.accesses (x : X) : Op L X → Prop
  | .rd y => y = x
  | .wr y => y = x
  | _ => False

/-- positions i and j are conflicting accesses of x by different threads -/
def Conflict (tr : Trace L X) (x : X) (i j : Nat) : Prop :=
  ∃ t u a b, t ≠ u ∧ tr[i]? = some ⟨t, a⟩ ∧ tr[j]? = some ⟨u, b⟩ ∧ a.accesses x ∧ b.accesses x ∧ (a = .wr x ∨ b = .wr x)

/-- no data race on x: conflicting accesses are ordered by happens-before -/
def RaceFree (tr : Trace L X) (x : X) : Prop := ∀ i j, i < j → Conflict tr x i j → HB tr i j

/-- consistent lockset: every write of x holds l exclusively, every read holds l in either mode -/
def Disciplined (tr : Trace L X) (x : X) (l : L) : Prop :=
  ∀ i t, (tr[i]? = some ⟨t, .wr x⟩ → HoldsW tr t l i) ∧ (tr[i]? = some ⟨t, .rd x⟩ → HoldsAny tr t l i)

/-! ### basic facts about happens-before -/

theorem lt_length_of_getElem? {tr : Trace L X} {j : Nat} {e : Ev L X} (h : tr[j]? = some e) :
    j < tr.length := (List.getElem?_eq_some_iff.1 h).1

theorem HB_lt {tr : Trace L X} {i j : Nat} (h : HB tr i j) : i < j := by
  induction h with
  | po h _ _ => exact h
  | relAcq h _ _ => exact h
  | rrelAcq h _ _ => exact h
  | fork h _ _ => exact h
  | trans _ _ ih1 ih2 => exact Nat.lt_trans ih1 ih2

theorem HB_inBounds {tr : Trace L X} {i j : Nat} (h : HB tr i j) : j < tr.length := by
  induction h with
  | po _ _ h => exact lt_length_of_getElem? h
  | relAcq _ _ h => exact h.elim lt_length_of_getElem? lt_length_of_getElem?
  | rrelAcq _ _ h => exact lt_length_of_getElem? h
  | fork _ _ h => exact lt_length_of_getElem? h
  | trans _ _ _ ih2 => exact ih2

/-- the events that start a synchronisation edge -/
def Op.releases : Op L X → Bool
  | .rel _ | .rrel _ | .fork _ => true
  | _ => false

/-- happens-before only leaves a thread through a release or a go statement: if i happens before j
    in another thread, one of the events i, …, j-1 is an Unlock, an RUnlock or a go statement -/
theorem HB_cross {tr : Trace L X} {i j : Nat} (h : HB tr i j) :
    (tr[i]?).map Ev.tid = (tr[j]?).map Ev.tid ∨
      ∃ m, m < j ∧ i ≤ m ∧ (tr[m]?).any (·.op.releases) = true := by
  induction h with
  | po _ h1 h2 => exact Or.inl (by rw [h1, h2]; rfl)
  | relAcq hij h1 _ => exact Or.inr ⟨_, hij, Nat.le_refl _, by rw [h1]; rfl⟩
  | rrelAcq hij h1 _ => exact Or.inr ⟨_, hij, Nat.le_refl _, by rw [h1]; rfl⟩
  | fork hij h1 _ => exact Or.inr ⟨_, hij, Nat.le_refl _, by rw [h1]; rfl⟩
  | trans h1 h2 ih1 ih2 =>
    have hij := HB_lt h1
    have hjk := HB_lt h2
    rcases ih1 with e1 | ⟨m, hm, him, hr⟩
    · rcases ih2 with e2 | ⟨m, hm, hjm, hr⟩
      · exact Or.inl (e1.trans e2)
      · exact Or.inr ⟨m, hm, by omega, hr⟩
    · exact Or.inr ⟨m, by omega, him, hr⟩

/-! ### a uniform view of the two lock modes -/

inductive Mode where
  | w
  | r

def acqOp (l : L) : Mode → Op L X
  | .w => .acq l
  | .r => .racq l

def relOp (l : L) : Mode → Op L X
  | .w => .rel l
  | .r => .rrel l

/-- thread t holds l in mode M just before position j -/
def Holds (tr : Trace L X) (t : Nat) (l : L) (M : Mode) (j : Nat) : Prop :=
  ∃ k, k < j ∧ tr[k]? = some ⟨t, acqOp l M⟩ ∧ ∀ m, k < m → m < j → tr[m]? ≠ some ⟨t, relOp l M⟩

theorem holds_w {tr : Trace L X} {t : Nat} {l : L} {j : Nat} :
    Holds tr t l .w j ↔ HoldsW tr t l j := Iff.rfl

theorem holds_r {tr : Trace L X} {t : Nat} {l : L} {j : Nat} :
    Holds tr t l .r j ↔ HoldsR tr t l j := Iff.rfl

theorem holdsAny_mode {tr : Trace L X} {t : Nat} {l : L} {j : Nat} (h : HoldsAny tr t l j) :
    ∃ M, Holds tr t l M j := by
  rcases h with h | h
  · exact ⟨.w, h⟩
  · exact ⟨.r, h⟩

/-- mutual exclusion, uniformly: at an acquire in mode M nobody holds in mode M' when one of the
    two modes is the write mode -/
theorem excl {tr : Trace L X} (wf : WF tr) {k u : Nat} {l : L} {M M' : Mode} {t' : Nat}
    (hk : tr[k]? = some ⟨u, acqOp l M⟩) (hm : M = .w ∨ M' = .w) : ¬ Holds tr t' l M' k := by
  cases M <;> cases M'
  · exact fun h => wf.acq_excl k u l hk t' (Or.inl h)
  · exact fun h => wf.acq_excl k u l hk t' (Or.inr h)
  · exact wf.racq_excl k u l hk t'
  · rcases hm with h | h <;> cases h

/-- synchronisation edge, uniformly: a release in mode M' happens before a later acquire in mode M
    when one of the two modes is the write mode -/
theorem hbSync {tr : Trace L X} {m k t u : Nat} {l : L} {M M' : Mode} (hmk : m < k)
    (h1 : tr[m]? = some ⟨t, relOp l M'⟩) (h2 : tr[k]? = some ⟨u, acqOp l M⟩)
    (hm : M = .w ∨ M' = .w) : HB tr m k := by
  cases M <;> cases M'
  · exact HB.relAcq hmk h1 (Or.inl h2)
  · exact HB.rrelAcq hmk h1 h2
  · exact HB.relAcq hmk h1 (Or.inr h2)
  · rcases hm with h | h <;> cases h

/-- if t acquired at p < k and does not hold at k, it released in between -/
theorem released {tr : Trace L X} {p k t : Nat} {l : L} {M : Mode}
    (hp : tr[p]? = some ⟨t, acqOp l M⟩) (hpk : p < k) (hn : ¬ Holds tr t l M k) :
    ∃ m, p < m ∧ m < k ∧ tr[m]? = some ⟨t, relOp l M⟩ := by
  apply Classical.byContradiction
  intro hne
  apply hn
  exact ⟨p, hpk, hp, fun m h1 h2 h3 => hne ⟨m, h1, h2, h3⟩⟩

theorem hb_le {tr : Trace L X} {i m k t : Nat} {a c : Op L X} (him : i ≤ m)
    (hi : tr[i]? = some ⟨t, a⟩) (hm : tr[m]? = some ⟨t, c⟩) (h : HB tr m k) : HB tr i k := by
  rcases Nat.lt_or_ge i m with hlt | hge
  · exact HB.trans (HB.po hlt hi hm) h
  · have : i = m := Nat.le_antisymm him hge
    subst this
    exact h

/-- the positional argument of the soundness proof: two different threads each holding l (at least one of them in
    write mode) at positions i < j are ordered by happens-before -/
theorem HB_of_holders {tr : Trace L X} (wf : WF tr) {t u i j : Nat} {a b : Op L X} {l : L} {M M' : Mode}
    (hm : M = .w ∨ M' = .w) (htu : t ≠ u) (hij : i < j)
    (hi : tr[i]? = some ⟨t, a⟩) (hj : tr[j]? = some ⟨u, b⟩)
    (hT : Holds tr t l M' i) (hU : Holds tr u l M j) : HB tr i j := by
  obtain ⟨p, hpi, hp, hnp⟩ := hT
  obtain ⟨k, hkj, hk, hnk⟩ := hU
  -- u's acquire k comes after i: otherwise the later of the acquires p, k happens while the other
  -- thread still holds l
  have hik : i < k := by
    apply Classical.byContradiction
    intro hki
    rcases Nat.lt_trichotomy p k with h | h | h
    · exact excl wf hk hm ⟨p, h, hp, fun m h1 _ => hnp m h1 (by omega)⟩
    · subst h
      exact htu (congrArg Ev.tid (Option.some.inj (hp.symm.trans hk)))
    · exact excl wf hp hm.symm ⟨k, h, hk, fun m h1 _ => hnk m h1 (by omega)⟩
  -- so t released between i and k, and that release happens before u's acquire
  obtain ⟨m, hpm, hmk, hm'⟩ := released hp (by omega : p < k) (excl wf hk hm)
  have him : i ≤ m := Nat.le_of_not_lt fun h' => hnp m hpm h' hm'
  exact hb_le him hi hm' (HB.trans (hbSync hmk hm' hk hm) (HB.po hkj hk hj))

/-! ### the soundness theorems -/

/-- what the discipline gives for one access of x: the lock is held in some mode, the write mode
    if the access is a write -/
theorem Disciplined.holds {tr : Trace L X} {x : X} {l : L} (d : Disciplined tr x l) {i t : Nat}
    {a : Op L X} (hi : tr[i]? = some ⟨t, a⟩) (ha : a.accesses x) :
    ∃ M, Holds tr t l M i ∧ (a = .wr x → M = .w) := by
  cases a with
  | rd y =>
    cases (ha : y = x)
    obtain ⟨M, hM⟩ := holdsAny_mode ((d i t).2 hi)
    exact ⟨M, hM, fun h => by cases h⟩
  | wr y =>
    cases (ha : y = x)
    exact ⟨.w, (d i t).1 hi, fun _ => rfl⟩
  | _ => exact ha.elim

/-- lockset soundness: a consistent lockset implies data-race freedom -/
theorem lockset_sound {tr : Trace L X} {x : X} {l : L} (wf : WF tr) (d : Disciplined tr x l) :
    RaceFree tr x := by
  intro i j hij ⟨t, u, a, b, htu, hi, hj, ha, hb, hw⟩
  obtain ⟨M', hT, hwa⟩ := d.holds hi ha
  obtain ⟨M, hU, hwb⟩ := d.holds hj hb
  exact HB_of_holders wf (hw.symm.imp hwb hwa) htu hij hi hj hT hU

theorem readonly_sound {tr : Trace L X} {x : X} (h : ∀ (i t : Nat), tr[i]? ≠ some ⟨t, .wr x⟩) :
    RaceFree tr x := by
  intro i j _ hc
  obtain ⟨t, u, a, b, _, hi, hj, _, _, hw⟩ := hc
  rcases hw with hw | hw
  · subst hw
    exact absurd hi (h i t)
  · subst hw
    exact absurd hj (h j u)

/-! ### checking a given trace

  All quantifiers of `Holds`, `WF` and `Disciplined` range over positions of the trace (and over the
  threads that occur in it), so for a given trace they are decided by evaluation. -/

/-- the thread that holds a lock at k has an event before k -/
theorem Holds.mem_take {tr : Trace L X} {t : Nat} {l : L} {M : Mode} {k : Nat}
    (h : Holds tr t l M k) : ∃ e ∈ tr.take k, e.tid = t := by
  obtain ⟨p, hpk, hp, _⟩ := h
  exact ⟨_, List.mem_of_getElem? ((List.getElem?_take_of_lt hpk).trans hp), rfl⟩

theorem disciplined_of_forall {tr : Trace L X} {x : X} {l : L}
    (h : ∀ i (hi : i < tr.length), (tr[i].op = .wr x → HoldsW tr tr[i].tid l i) ∧
      (tr[i].op = .rd x → HoldsAny tr tr[i].tid l i)) :
    Disciplined tr x l := fun i t => by
  have at_i : ∀ {a}, tr[i]? = some ⟨t, a⟩ → (a = .wr x → HoldsW tr t l i) ∧ (a = .rd x → HoldsAny tr t l i) := by
    intro a hi
    obtain ⟨hlt, he⟩ := List.getElem?_eq_some_iff.1 hi
    have := h i hlt
    rwa [he] at this
  exact ⟨fun hi => (at_i hi).1 rfl, fun hi => (at_i hi).2 rfl⟩

section Check
variable [DecidableEq L] [DecidableEq X]

instance (tr : Trace L X) (t : Nat) (l : L) (M : Mode) (j : Nat) : Decidable (Holds tr t l M j) :=
  decidable_of_iff
    (∃ k, k < j ∧ tr[k]? = some ⟨t, acqOp l M⟩ ∧ ∀ m, m < j → k < m → tr[m]? ≠ some ⟨t, relOp l M⟩)
    (exists_congr fun _ => and_congr_right fun _ => and_congr_right fun _ =>
      forall_congr' fun _ => ⟨fun h a b => h b a, fun h a b => h b a⟩)

instance (tr : Trace L X) (t : Nat) (l : L) (j : Nat) : Decidable (HoldsW tr t l j) :=
  inferInstanceAs (Decidable (Holds tr t l .w j))

instance (tr : Trace L X) (t : Nat) (l : L) (j : Nat) : Decidable (HoldsR tr t l j) :=
  inferInstanceAs (Decidable (Holds tr t l .r j))

instance (tr : Trace L X) (t : Nat) (l : L) (j : Nat) : Decidable (HoldsAny tr t l j) :=
  inferInstanceAs (Decidable (_ ∨ _))

/-- what `WF` asks of the event at position k, with the threads restricted to those seen so far -/
def okAt (tr : Trace L X) (k : Nat) : Ev L X → Bool
  | ⟨_, .acq l⟩ => decide (∀ e ∈ tr.take k, ¬ HoldsAny tr e.tid l k)
  | ⟨_, .racq l⟩ => decide (∀ e ∈ tr.take k, ¬ HoldsW tr e.tid l k)
  | ⟨t, .rel l⟩ => decide (HoldsW tr t l k)
  | ⟨t, .rrel l⟩ => decide (HoldsR tr t l k)
  | ⟨t, .fork c⟩ => decide (c ≠ t ∧ ∀ e ∈ tr.take k, e.tid ≠ c)
  | _ => true

theorem WF_of_okAt {tr : Trace L X} (h : ∀ k (hk : k < tr.length), okAt tr k tr[k] = true) :
    WF tr := by
  have ok : ∀ {k e}, tr[k]? = some e → okAt tr k e = true := fun hk => by
    obtain ⟨hlt, rfl⟩ := List.getElem?_eq_some_iff.1 hk
    exact h _ hlt
  refine ⟨fun k t l hk t' hh => ?_, fun k t l hk t' hh => ?_, fun k t l hk => ?_, fun k t l hk => ?_,
    fun k t c hk => ?_⟩
  · have h1 := of_decide_eq_true (ok hk)
    obtain ⟨M, hM⟩ := holdsAny_mode hh
    obtain ⟨e, he, rfl⟩ := hM.mem_take
    exact h1 e he hh
  · obtain ⟨e, he, rfl⟩ := (holds_w.2 hh).mem_take
    exact of_decide_eq_true (ok hk) e he hh
  · exact of_decide_eq_true (ok hk)
  · exact of_decide_eq_true (ok hk)
  · obtain ⟨h1, h2⟩ := of_decide_eq_true (ok hk)
    exact ⟨h1, fun m e hm he => h2 e (List.mem_of_getElem? ((List.getElem?_take_of_lt hm).trans he))⟩

end Check

/-! ### concrete traces for the non-vacuity theorems of Props/C36 -/

def exGood : Trace Nat Nat :=
  [⟨1, .acq 0⟩, ⟨1, .wr 7⟩, ⟨1, .rel 0⟩, ⟨2, .racq 0⟩, ⟨2, .rd 7⟩, ⟨2, .rrel 0⟩]

def exRacy : Trace Nat Nat := [⟨1, .wr 7⟩, ⟨2, .wr 7⟩]

/-- two writers, each holding a DIFFERENT mutex: well-formed, but racy -/
def exTwoLocks : Trace Nat Nat :=
  [⟨1, .acq 0⟩, ⟨1, .wr 7⟩, ⟨2, .acq 1⟩, ⟨2, .wr 7⟩, ⟨2, .rel 1⟩, ⟨1, .rel 0⟩]

end Opcua.Lockset
