import OpcuaModel.Model.Uacp
/-
  Writer side of the UACP layer and the codec of its four message bodies:
  `(*Conn).Send` (uacp/conn.go:416), `Header.Encode`, and
  `Hello/Acknowledge/ReverseHello/Error .Encode/.Decode` (uacp/uacp.go) over
  `ua.Buffer` (`WriteUint32`, `WriteString`, `ReadUint32`, `ReadString`).

  Strings are byte strings (a Go string is one).  `WriteString("")` writes the
  null length 0xffffffff; `ReadString` maps both 0 and 0xffffffff to "".
-/
namespace Opcua.Uacp
open Opcua

/-- `Buffer.WriteUint32` -/
def encU32 (v : Nat) : Bytes := leBytes 4 v

/-- `Buffer.WriteString` -/
def encString (s : Bytes) : Bytes :=
  if s = [] then leBytes 4 0xffffffff else leBytes 4 s.length ++ s

/-- `Buffer.ReadUint32`: `none` = the buffer went into its error state -/
def readU32 (b : Bytes) : Option (Nat × Bytes) :=
  if b.length < 4 then none else some (leVal (b.take 4), b.drop 4)

/-- `Buffer.ReadString` -/
def readString (b : Bytes) : Option (Bytes × Bytes) :=
  match readU32 b with
  | none => none
  | some (n, r) =>
    if n = 0 ∨ n = 0xffffffff then some ([], r)
    else if n > r.length then none
    else some (r.take n, r.drop n)

/-- the four UACP messages -/
inductive Msg where
  | hello (version rcv snd maxMsg maxChunks : Nat) (url : Bytes)
  | ack (version rcv snd maxMsg maxChunks : Nat)
  | rhe (serverURI url : Bytes)
  | err (code : Nat) (reason : Bytes)
  deriving DecidableEq, Repr

/-- `MessageTypeHello` … as the three bytes on the wire -/
def Msg.typ : Msg → Bytes
  | .hello .. => [0x48, 0x45, 0x4c]
  | .ack .. => [0x41, 0x43, 0x4b]
  | .rhe .. => [0x52, 0x48, 0x45]
  | .err .. => [0x45, 0x52, 0x52]

/-- `Hello.Encode`, `Acknowledge.Encode`, `ReverseHello.Encode`, `Error.Encode` -/
def Msg.body : Msg → Bytes
  | .hello v r s mm mc url => encU32 v ++ encU32 r ++ encU32 s ++ encU32 mm ++ encU32 mc ++ encString url
  | .ack v r s mm mc => encU32 v ++ encU32 r ++ encU32 s ++ encU32 mm ++ encU32 mc
  | .rhe uri url => encString uri ++ encString url
  | .err c reason => encU32 c ++ encString reason

/-- `(*Conn).Send(typ, msg)` with `c.ack.SendBufSize = sndBuf`, `body = ua.Encode(msg)`:
    the frame handed to ONE `Write`, or `none` when Send returns an error before writing
    (`len(typ) != 4`, "send packet too large").  `MessageSize` is `uint32(len(body)+8)`. -/
def send (sndBuf : Nat) (typ : Bytes) (body : Bytes) : Option Bytes :=
  if typ.length ≠ 4 then none else
  let size := (body.length + hdrlen) % 4294967296
  if size > sndBuf then none
  else some (typ.take 3 ++ [typ.getD 3 0] ++ leBytes 4 size ++ body)

/-- `Hello.Decode` etc. on the frame body `b[hdrlen:]`; trailing bytes are ignored -/
def decodeHello (b : Bytes) : Option Msg := do
  let (v, b) ← readU32 b
  let (r, b) ← readU32 b
  let (s, b) ← readU32 b
  let (mm, b) ← readU32 b
  let (mc, b) ← readU32 b
  let (url, _) ← readString b
  pure (.hello v r s mm mc url)

def decodeAck (b : Bytes) : Option Msg := do
  let (v, b) ← readU32 b
  let (r, b) ← readU32 b
  let (s, b) ← readU32 b
  let (mm, b) ← readU32 b
  let (mc, _) ← readU32 b
  pure (.ack v r s mm mc)

def decodeRhe (b : Bytes) : Option Msg := do
  let (uri, b) ← readString b
  let (url, _) ← readString b
  pure (.rhe uri url)

/-- what the handshake code does with a delivered frame: `switch string(b[:4])` on
    "ACKF" / "HELF" / "RHEF", then the matching `Decode(b[hdrlen:])` -/
def decodeFrame (f : Bytes) : Option Msg :=
  let t := f.take 4
  if t = [0x48, 0x45, 0x4c, 0x46] then decodeHello (f.drop hdrlen)
  else if t = [0x41, 0x43, 0x4b, 0x46] then decodeAck (f.drop hdrlen)
  else if t = [0x52, 0x48, 0x45, 0x46] then decodeRhe (f.drop hdrlen)
  else none

/-- values a Go caller can put into the structs: uint32 fields, strings `WriteByteString` accepts
    (at most `math.MaxInt32` = 2147483647 bytes) -/
def Msg.wf : Msg → Prop
  | .hello v r s mm mc url => v < 4294967296 ∧ r < 4294967296 ∧ s < 4294967296 ∧ mm < 4294967296 ∧
      mc < 4294967296 ∧ url.length ≤ 2147483647
  | .ack v r s mm mc => v < 4294967296 ∧ r < 4294967296 ∧ s < 4294967296 ∧ mm < 4294967296 ∧ mc < 4294967296
  | .rhe uri url => uri.length ≤ 2147483647 ∧ url.length ≤ 2147483647
  | .err c reason => c < 4294967296 ∧ reason.length ≤ 2147483647

instance (m : Msg) : Decidable m.wf := by cases m <;> unfold Msg.wf <;> infer_instance

theorem readU32_enc (v : Nat) (hv : v < 4294967296) (rest : Bytes) :
    readU32 (encU32 v ++ rest) = some (v, rest) := by
  have hl : (encU32 v).length = 4 := by simp [encU32]
  have hlt : ¬ (encU32 v ++ rest).length < 4 := by rw [List.length_append, hl]; omega
  simp only [readU32, hlt, if_false, List.take_left' hl, List.drop_left' hl]
  simp only [encU32, leVal_leBytes]
  have : v % 256 ^ 4 = v := Nat.mod_eq_of_lt (by omega)
  rw [this]

theorem readString_enc (s : Bytes) (hs : s.length ≤ 2147483647) (rest : Bytes) :
    readString (encString s ++ rest) = some (s, rest) := by
  unfold encString readString
  by_cases he : s = []
  · subst he
    have := readU32_enc 0xffffffff (by omega) rest
    simp only [encU32] at this
    simp [this]
  · have hpos : 0 < s.length := List.length_pos_iff.mpr he
    simp only [he, if_false, List.append_assoc]
    have := readU32_enc s.length (by omega) (s ++ rest)
    simp only [encU32] at this
    rw [this]
    have h1 : ¬ (s.length = 0 ∨ s.length = 0xffffffff) := by omega
    have h2 : ¬ s.length > (s ++ rest).length := by rw [List.length_append]; omega
    simp only [h1, h2, if_false, List.take_left' rfl, List.drop_left' rfl]

/-- `Error.Decode` inside `Receive` is `ReadUint32` then `ReadString` of the codec -/
theorem decodeErr_eq (b : Bytes) :
    decodeErr b = (readU32 b).bind fun p => (readString p.2).map fun q => (p.1, q.1) := by
  unfold decodeErr readString readU32
  grind

theorem decodeErr_enc (c : Nat) (reason : Bytes) (hc : c < 4294967296) (hr : reason.length ≤ 2147483647)
    (rest : Bytes) :
    decodeErr (encU32 c ++ encString reason ++ rest) = some (c, reason) := by
  rw [decodeErr_eq, List.append_assoc, readU32_enc c hc, Option.bind_some, readString_enc reason hr]
  rfl

theorem decode_body (m : Msg) (hm : m.wf) (rest : Bytes) :
    (match m with
     | .hello .. => decodeHello (m.body ++ rest) = some m
     | .ack .. => decodeAck (m.body ++ rest) = some m
     | .rhe .. => decodeRhe (m.body ++ rest) = some m
     | .err c reason => decodeErr (m.body ++ rest) = some (c, reason)) := by
  cases m with
  | hello v r s mm mc url =>
    simp only [Msg.wf] at hm
    simp [Msg.body, decodeHello, readU32_enc, readString_enc, hm]
  | ack v r s mm mc =>
    simp only [Msg.wf] at hm
    simp [Msg.body, decodeAck, readU32_enc, hm]
  | rhe uri url =>
    simp only [Msg.wf] at hm
    simp [Msg.body, decodeRhe, readString_enc, hm]
  | err c reason => exact decodeErr_enc c reason hm.1 hm.2 rest

/-- `Send` writes type, size and body when the type has four bytes and the size (modulo 2^32) passes the check -/
theorem send_eq (sndBuf : Nat) (typ body : Bytes) :
    send sndBuf typ body =
      if typ.length = 4 ∧ (body.length + hdrlen) % 4294967296 ≤ sndBuf
      then some (typ ++ leBytes 4 ((body.length + hdrlen) % 4294967296) ++ body) else none := by
  unfold send
  by_cases ht : typ.length = 4
  · have htyp : typ.take 3 ++ [typ.getD 3 0] = typ := by
      match typ, ht with
      | [a, b, c, d], _ => rfl
    simp only [ht, ne_eq, not_true_eq_false, if_false, htyp, true_and, Nat.not_le.symm, ite_not]
  · simp [ht]

/-- what `Send` writes, read back field by field; `MessageSize` is the length modulo 2^32 -/
theorem send_inv {sndBuf : Nat} {typ body f : Bytes} (h : send sndBuf typ body = some f) :
    f.length = body.length + hdrlen ∧ f.take 4 = typ ∧ f.drop hdrlen = body ∧
    sizeOfHeader f = (body.length + hdrlen) % 4294967296 ∧ (body.length + hdrlen) % 4294967296 ≤ sndBuf := by
  rw [send_eq] at h
  split at h <;> cases h
  rename_i hc
  obtain ⟨ht4, hsz⟩ := hc
  have hpre : (typ ++ leBytes 4 ((body.length + hdrlen) % 4294967296)).length = hdrlen := by
    rw [List.length_append, ht4, leBytes_length]; rfl
  refine ⟨?_, ?_, List.drop_left' hpre, ?_, hsz⟩
  · rw [List.length_append, hpre, Nat.add_comm]
  · rw [List.append_assoc, List.take_left' ht4]
  · rw [sizeOfHeader, List.append_assoc, List.drop_left' ht4, List.take_left' (leBytes_length 4 _), leVal_leBytes]
    exact Nat.mod_eq_of_lt (Nat.mod_lt _ (by decide))

/-- the message type of a frame `Send` wrote -/
theorem take3_of_send {sndBuf : Nat} {m : Msg} {f : Bytes} {chunk : UInt8}
    (hsend : send sndBuf (m.typ ++ [chunk]) m.body = some f) : f.take 3 = m.typ := by
  obtain ⟨-, htk, -⟩ := send_inv hsend
  have : (f.take 4).take 3 = f.take 3 := by rw [List.take_take]; rfl
  rw [← this, htk]
  cases m <;> rfl

/-- the handshake code's `Decode` on a frame `Send` wrote with chunk type 'F' -/
theorem decodeFrame_of_send {sndBuf : Nat} {m : Msg} (hm : m.wf) {f : Bytes}
    (hsend : send sndBuf (m.typ ++ [0x46]) m.body = some f) (hne : m.typ ≠ [0x45, 0x52, 0x52]) :
    decodeFrame f = some m := by
  obtain ⟨-, htk, hdr, -⟩ := send_inv hsend
  have hdec := decode_body m hm []
  rw [List.append_nil] at hdec
  cases m with
  | err => exact absurd rfl hne
  | _ => simpa [decodeFrame, htk, Msg.typ, hdr] using hdec

/-- the frame `Send` writes is a complete frame for every receiver whose buffer holds it:
    a body of 4 GiB or more would pass Send's check with a truncated size, but its frame is
    longer than any uint32 buffer -/
theorem send_complete {sndBuf rcvBuf : Nat} {typ body f : Bytes} (h : send sndBuf typ body = some f)
    (hr : f.length ≤ rcvBuf) (hr2 : rcvBuf < 4294967296) :
    completeFrame rcvBuf f ∧ f.length = body.length + hdrlen ∧ f.length ≤ sndBuf ∧
    f.take 4 = typ ∧ f.drop hdrlen = body := by
  obtain ⟨hlen, htk, hdr, hsz, hle⟩ := send_inv h
  rw [← hlen, Nat.mod_eq_of_lt (by omega)] at hsz hle
  exact ⟨⟨by omega, hr, hsz⟩, hlen, hle, htk, hdr⟩

end Opcua.Uacp
