import OpcuaModel.Model.Interop
import OpcuaModel.Model.SecureLenLemmas
/-
  Lemmas about the connect pipeline of `Model/Interop.lean`: which rows
  `configTable` has, read off its definition, how the admission rule of
  `connectWith` relates to the rest of the pipeline, and the sizes of the OPN chunk
  in closed form (block rounding as in `Model/SecureLenLemmas.lean`).
-/
namespace Opcua.Interop
open Opcua Opcua.Asym

theorem mem_enumFrom {α} {l : List α} {n i : Nat} {x : α} :
    (i, x) ∈ enumFrom n l ↔ n ≤ i ∧ l[i - n]? = some x := by
  induction l generalizing n with
  | nil => simp [enumFrom]
  | cons y ys ih =>
    simp only [enumFrom, List.mem_cons, Prod.mk.injEq, ih, List.getElem?_cons]
    grind

theorem mem_enumFrom_policies {i : Nat} {p : Gen.InteropPolicy} :
    (i, p) ∈ enumFrom 0 Gen.interopPolicies ↔ policyInfo i = some p := by
  simp [mem_enumFrom, policyInfo]

/-- the rows of the table.  A policy `p` with a key range `r` has the range in hand (`inRange r`); for the
    username rows of a None policy the secured policy `q` is bound by `∃`, and "`q` has a range and the server
    key is in it" is said through `keyAllowed q.name`, the form the completeness statements of C37 use -/
theorem mem_configTable {c : Config} : c ∈ configTable ↔
    ∃ p, policyInfo c.pol = some p ∧ c.mode ∈ p.modes ∧
      match Spec.keyBits p.name with
      | some r => c.extra = none ∧ c.cbits ∈ keySizes ∧ c.sbits ∈ keySizes ∧
          inRange r c.cbits = true ∧ inRange r c.sbits = true
      | none =>
        (c.extra = none ∧ c.auth = .anonymous ∧ c.cbits = c.sbits ∧ (c.cbits = 0 ∨ c.cbits = 2048)) ∨
        ∃ j q, c.extra = some j ∧ policyInfo j = some q ∧ (Spec.keyBits q.name).isSome = true ∧
          c.auth = .username ∧ c.sbits ∈ keySizes ∧ keyAllowed q.name c.sbits = true ∧ (c.cbits = 0 ∨ c.cbits = 2048) := by
  rcases c with ⟨pol, mode, cb, sb, auth, extra⟩
  -- `configTable` nests `flatMap`s (policies, modes, then key sizes or the secured policies `q`) around
  -- two-row lists: membership is one `∃` per level, and the innermost equations fix the row's fields
  simp only [configTable, List.mem_flatMap, Prod.exists, mem_enumFrom_policies]
  constructor
  · rintro ⟨i, p, hp, m, hm, h⟩
    split at h
    · simp only [List.mem_append, List.mem_flatMap, Prod.exists, mem_enumFrom_policies] at h
      rcases h with h | ⟨j, q, hq, h⟩
      · grind
      · split at h
        · cases h
        · simp only [List.mem_flatMap, List.mem_ite_nil_right] at h
          grind [keyAllowed]
    · simp only [List.mem_flatMap, List.mem_ite_nil_right] at h
      grind
  · rintro ⟨p, hp, hm, h⟩
    refine ⟨pol, p, hp, mode, hm, ?_⟩
    cases hr : Spec.keyBits p.name <;> simp only [hr] at h ⊢
    · simp only [List.mem_append, List.mem_flatMap, Prod.exists, mem_enumFrom_policies]
      rcases h with h | ⟨j, q, rfl, hq, h⟩
      · grind
      · refine .inr ⟨j, q, hq, ?_⟩
        grind [keyAllowed]
    · simp only [List.mem_flatMap, List.mem_ite_nil_right]
      cases auth <;> grind

/-- the (policy, mode) pairs the server of configuration `c` enables -/
def Config.enabled (c : Config) : List (Nat × Nat) :=
  (c.pol, c.mode) :: (match c.extra with | none => [] | some j => [(j, 3)])

def nonePol : Nat := (Gen.interopPolicies.findIdx? (·.isNone)).getD 0

/-- admission is decided before, and independently of, the rest of the pipeline -/
theorem connectWith_eq (adm : Admission) {c : Config} (hs : connect c ≠ .unsupportedPolicy) :
    connectWith adm c =
      if !admits adm c.enabled true nonePol 1 then .discoveryRefused
      else if !admits adm c.enabled (polIsNone c.pol) c.pol c.mode then .channelRefused
      else connect c := by
  rcases c with ⟨pol, mode, cb, sb, auth, extra⟩
  unfold connect connectWith at hs ⊢
  by_cases h : (policyInfo pol).isNone = true ∨ (findRow pol).isNone = true
  · exact absurd (if_pos h) hs
  · simp only [if_neg h]
    cases extra
    -- under `.any` both admission tests pass: `connect` is what follows them
    all_goals
      simp only [admits, Bool.not_true, Bool.false_eq_true, if_false]
      rfl

/-! ### OPN chunk sizes -/

/-- when the padding uses the block size of the encryption (`ptPad = encPad`): sequence header, body, signature
    and the padding-size bytes (two for keys above 256 bytes) are rounded up to whole plaintext blocks, each
    encrypted to `k` bytes, so the MessageSize computed from the plaintext length is the length of the ciphertext -/
theorem asymSecure_eq (H n sigLen k pad : Int) (hB : 0 < k - pad) (hn : 0 ≤ n) (hs : 0 ≤ sigLen) :
    asymSecure H n sigLen k pad pad =
      ⟨H + blockCeil (k - pad) (n + sigLen + if k > 256 then 2 else 1) / (k - pad) * k,
       H + blockCeil (k - pad) (n + sigLen + if k > 256 then 2 else 1) / (k - pad) * k⟩ := by
  have he : (if k > 256 then (2 : Int) else 1) = (if k > 256 then 1 else 0) + 1 ∧
      (0 : Int) ≤ (if k > 256 then 1 else 0) := by split <;> omega
  simp only [asymSecure, decide_eq_true_eq, he.1]
  generalize (if k > 256 then (1 : Int) else 0) = e at he ⊢
  have hc := blockCeil_bounds hB (n + sigLen + (e + 1))
  have hm := blockCeil_emod (k - pad) (n + sigLen + (e + 1))
  rw [Int.tmod_eq_emod_of_nonneg (by omega),
    show n + ((if (n + sigLen + (e + 1)) % (k - pad) ≠ 0 then k - pad - (n + sigLen + (e + 1)) % (k - pad) else 0) + 1)
        + e + sigLen = blockCeil (k - pad) (n + sigLen + (e + 1)) by simp only [blockCeil]; omega,
    Int.tdiv_eq_ediv_of_nonneg (by omega), if_neg (by omega), ceilDiv_of_multiple hB hm]

/-- `+ 2` in the bound on the number `q` of blocks: at most two padding-size bytes -/
theorem asymSecure_blocks (H : Int) {n sigLen k pad : Int} (hB : 0 < k - pad) (hn : 0 ≤ n) (hs : 0 ≤ sigLen) :
    ∃ q, q ≤ (n + sigLen + 2) / (k - pad) + 1 ∧
      (asymSecure H n sigLen k pad pad).sizeField = H + q * k ∧
      (asymSecure H n sigLen k pad pad).chunkLen = H + q * k := by
  rw [asymSecure_eq H n sigLen k pad hB hn hs]
  exact ⟨_, Int.le_trans (blockCeil_ediv_le hB _)
    (Int.add_le_add_right (Int.ediv_le_ediv hB (by split <;> omega)) 1), rfl, rfl⟩

end Opcua.Interop
