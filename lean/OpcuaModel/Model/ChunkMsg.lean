import OpcuaModel.Model.ChunkLemmas
/-
  Message-level lemmas of the chunk model: structure of the raw chunks that
  `encodeChunks` produces, what `readChunk` extracts from a secured chunk, the
  send loop, the receive loop and `mergeChunks`.

  Entry points.  Per chunk: `WireOK` (what is known of one wire chunk), `Carries` /
  `chunk_roundtrip`.  Per message: `items` (the pieces with their flags), `stamped` (the chunks
  the receiver should decode), `Wires`, `sendMessage_ok` (the sender alone), `message_roundtrip`.
  Per session: `session_ok`.  Lengths: `chunkLen`, tied to `secureLen` by `chunkLen_eq_secureLen`.
-/
namespace Opcua.Chunk
open Opcua

/-- raw chunk as the send loop hands it to `signAndEncrypt`: the 24 header bytes
    with sequence number `s`, then the body piece -/
def rawOf (h : MsgHdr) (flag : UInt8) (s : Nat) (piece : Bytes) : Bytes :=
  hdr24 { h with seq := s } flag (24 + piece.length) ++ piece

/-- the 16 header bytes in front of the secured part, with size field `v` -/
def wireHdr (h : MsgHdr) (f : UInt8) (v : Nat) : Bytes :=
  h.msgType ++ [f] ++ u32 v ++ u32 h.channelID ++ u32 h.tokenID

theorem wireHdr_length (h : MsgHdr) (f : UInt8) (v : Nat) (hmt : h.msgType.length = 3) :
    (wireHdr h f v).length = 16 := by
  simp [wireHdr, hmt]

theorem rawOf_eq (h : MsgHdr) (f : UInt8) (s : Nat) (p : Bytes) :
    rawOf h f s p = wireHdr h f (24 + p.length) ++ (u32 s ++ u32 h.requestID ++ p) := by
  simp [rawOf, hdr24, wireHdr, List.append_assoc]

/-- the send loop's fix-up of bytes 16..19 replaces the sequence number -/
theorem putU32_seq (h : MsgHdr) (f : UInt8) (s₀ s : Nat) (p : Bytes) (hmt : h.msgType.length = 3) :
    putU32 (rawOf h f s₀ p) 16 s = rawOf h f s p := by
  simpa only [rawOf_eq, List.append_assoc] using
    putU32_field (wireHdr_length h f (24 + p.length) hmt) s₀ s (u32 h.requestID ++ p)

/-- `signAndEncrypt` writes the final size into bytes 4..7 -/
theorem putU32_size (h : MsgHdr) (f : UInt8) (v₀ v : Nat) (hmt : h.msgType.length = 3) :
    putU32 (wireHdr h f v₀) 4 v = wireHdr h f v := by
  have h4 : (h.msgType ++ [f]).length = 4 := by simp [hmt]
  simpa only [wireHdr, List.append_assoc] using putU32_field h4 v₀ v (u32 h.channelID ++ u32 h.tokenID)

/-- what `readChunk` reads from the 16 header bytes -/
theorem wireHdr_fields (h : MsgHdr) (f : UInt8) (v : Nat) (q : Bytes) (hmt : h.msgType.length = 3) :
    (wireHdr h f v ++ q).take 3 = h.msgType ∧ (wireHdr h f v ++ q).drop 3 = f :: (u32 v ++ u32 h.channelID ++ u32 h.tokenID ++ q) ∧
    u32At (wireHdr h f v ++ q) 4 = v % 4294967296 ∧ u32At (wireHdr h f v ++ q) 8 = h.channelID % 4294967296 := by
  have h4 : (h.msgType ++ [f]).length = 4 := by simp [hmt]
  have h8 : (h.msgType ++ [f] ++ u32 v).length = 8 := by simp [hmt]
  simp only [wireHdr, List.append_assoc]
  refine ⟨List.take_left' hmt, by rw [List.drop_left' hmt]; rfl, ?_, ?_⟩
  · simpa only [List.append_assoc] using u32At_field h4 v (u32 h.channelID ++ u32 h.tokenID ++ q)
  · simpa only [List.append_assoc] using u32At_field h8 h.channelID (u32 h.tokenID ++ q)

/-- what `readChunk` reads from the sequence header -/
theorem seqHdr_fields (s r : Nat) (p : Bytes) :
    u32At (u32 s ++ u32 r ++ p) 0 = s % 4294967296 ∧ u32At (u32 s ++ u32 r ++ p) 4 = r % 4294967296 ∧
    (u32 s ++ u32 r ++ p).drop 8 = p ∧ (u32 s ++ u32 r ++ p).length = 8 + p.length := by
  have h8 : (u32 s ++ u32 r).length = 8 := by simp
  refine ⟨?_, u32At_field (u32_length s) r p, List.drop_left' h8, by rw [List.length_append, h8]⟩
  simpa only [List.append_assoc, List.nil_append, List.length_nil] using u32At_field (x := []) rfl s (u32 r ++ p)

/-- total length of the secured chunk for `n` bytes after the security header -/
def chunkLen (S : Side) (n : Nat) : Nat := 16 + (if S.mode = .none then n else tailLen S false n)

/-- what the receiver decodes from a secured chunk -/
def expChunk (chan req : Nat) (f : UInt8) (s : Nat) (p : Bytes) : RChunk :=
  { chunkType := f, channelID := chan, seq := s, requestID := req, data := p }

/-- per-chunk facts relating a wire chunk to the chunk the receiver decodes -/
structure WireOK (insts : Nat → List Side) (S : Side) (w : Bytes) (c : RChunk) : Prop where
  read : readChunk insts w = .ok (some c)
  length : w.length = chunkLen S (8 + c.data.length)
  sizeField : u32At w 4 = w.length % 4294967296
  flag : (w.drop 3).head? = some c.chunkType

/-- the channel carries chunks with header `h`: the sender seals every raw chunk and the receiver's
    `readChunk` decodes it back.  `h.seq` is not read (`rawOf` writes the number it is given), so
    the statements below put 0 there. -/
def Carries (insts : Nat → List Side) (S : Side) (h : MsgHdr) : Prop :=
  ∀ (f : UInt8) (s : Nat) (p : Bytes), s < 4294967296 →
    ∃ w, signAndEncrypt S false 16 (rawOf h f s p) = .ok w ∧ WireOK insts S w (expChunk h.channelID h.requestID f s p)

/-- One chunk through `signAndEncrypt` and `readChunk`, under the crypto contract.  `hi` says that
    `R` is the newest instance registered for the channel id: `readChunk` tries `s.instances[id]`
    from the end, so `R` gets the chunk first. -/
theorem chunk_roundtrip {S R : Side} (hp : Paired S R) (insts : Nat → List Side) (h : MsgHdr)
    (hmt : h.msgType = typeMSG) (hc : h.channelID < 4294967296) (hr : h.requestID < 4294967296)
    (hi : ∃ rest, (insts h.channelID).reverse = R :: rest) : Carries insts S h := by
  intro f s p hs
  have hmt3 : h.msgType.length = 3 := by rw [hmt]; rfl
  have h16 := wireHdr_length h f (24 + p.length) hmt3
  obtain ⟨rest, hi⟩ := hi
  obtain ⟨g1, g2, g3, g4⟩ := seqHdr_fields s h.requestID p
  -- in every mode the wire chunk is `wireHdr h f (16 + |q|) ++ q` and the receiver gets `data` back
  have key : ∃ q, signAndEncrypt S false 16 (rawOf h f s p) = .ok (wireHdr h f (16 + q.length) ++ q) ∧
      verifyAndDecrypt R false 16 (wireHdr h f (16 + q.length) ++ q) = .ok (u32 s ++ u32 h.requestID ++ p) ∧
      16 + q.length = chunkLen S (8 + p.length) := by
    rw [rawOf_eq]
    by_cases hm : S.mode = .none
    · refine ⟨u32 s ++ u32 h.requestID ++ p, ?_, ?_, by rw [g4]; simp [chunkLen, hm]⟩
      · simp only [signAndEncrypt, hm, if_true, g4]; congr 3; omega
      · simp only [verifyAndDecrypt, hp.mode, hm, true_and, Or.inr, if_true]
        rw [List.drop_left' (wireHdr_length h f _ hmt3)]
    · obtain ⟨q, hq, hsec, hver⟩ := secure_roundtrip hp false (wireHdr h f (24 + p.length)) (u32 s ++ u32 h.requestID ++ p)
        (by omega) hm
      rw [h16, putU32_size h f _ _ hmt3] at hsec hver
      exact ⟨q, hsec, hver, by rw [hq, g4]; simp only [chunkLen, if_neg hm]⟩
  obtain ⟨q, hsec, hver, hl⟩ := key
  obtain ⟨f1, f2, f3, f4⟩ := wireHdr_fields h f (16 + q.length) q hmt3
  have f5 := wireHdr_length h f (16 + q.length) hmt3
  refine ⟨_, hsec, ?_, ?_, ?_, ?_⟩
  · simp only [readChunk]
    rw [if_neg (by simp only [List.length_append, f5]; omega)]
    rw [f1, hmt, if_neg (by decide), if_neg (by simp), f4, Nat.mod_eq_of_lt hc, hi]
    simp only [tryInstances, hver]
    rw [if_neg (by omega), f2, g1, g2, g3, Nat.mod_eq_of_lt hs, Nat.mod_eq_of_lt hr]
    rfl
  · simp only [List.length_append, f5]; exact hl
  · rw [f3]; simp only [List.length_append, f5]
  · rw [f2]; rfl

/-! ### the body pieces -/

/-- `n` pieces of `mb` bytes and the rest -/
def pieces (mb : Nat) : Nat → Bytes → List Bytes × Bytes
  | 0, b => ([], b)
  | n + 1, b => (b.take mb :: (pieces mb n (b.drop mb)).1, (pieces mb n (b.drop mb)).2)

theorem pieces_flatten (mb n : Nat) (b : Bytes) : (pieces mb n b).1.flatten ++ (pieces mb n b).2 = b := by
  induction n generalizing b with
  | zero => simp [pieces]
  | succ n ih =>
    simp only [pieces, List.flatten_cons, List.append_assoc, ih]
    exact List.take_append_drop mb b

theorem pieces_length (mb n : Nat) (b : Bytes) : (pieces mb n b).1.length = n := by
  induction n generalizing b with
  | zero => simp [pieces]
  | succ n ih => simp [pieces, ih]

theorem pieces_rest (mb n : Nat) (b : Bytes) : (pieces mb n b).2 = b.drop (n * mb) := by
  induction n generalizing b with
  | zero => simp [pieces]
  | succ n ih => simp only [pieces, ih, List.drop_drop]; congr 1; rw [Nat.succ_mul]; omega

theorem pieces_le (mb n : Nat) (b : Bytes) : ∀ p ∈ (pieces mb n b).1, p.length ≤ mb := by
  induction n generalizing b with
  | zero => simp [pieces]
  | succ n ih =>
    intro p hp
    simp only [pieces, List.mem_cons] at hp
    rcases hp with rfl | hp
    · exact List.length_take_le _ _
    · exact ih _ p hp

theorem encodeLoop_eq (h : MsgHdr) (mb n : Nat) (b : Bytes) (hb : n * mb ≤ b.length) :
    encodeLoop h mb n b = ((pieces mb n b).1.map (rawOf h chunkC h.seq), (pieces mb n b).2) := by
  induction n generalizing b with
  | zero => simp [encodeLoop, pieces]
  | succ n ih =>
    rw [Nat.succ_mul] at hb
    have hl : (b.take mb).length = mb := by simp [List.length_take]; omega
    simp only [encodeLoop, pieces, List.map_cons, ih (b.drop mb) (by simp [List.length_drop]; omega)]
    congr 2
    simp only [rawOf, hl]
    rw [Nat.add_comm 24 mb]

/-- the items (`flag`, piece) of a message body -/
def items (mb : Nat) (body : Bytes) : List (UInt8 × Bytes) :=
  (pieces mb (body.length / mb) body).1.map (fun p => (chunkC, p)) ++ [(chunkF, (pieces mb (body.length / mb) body).2)]

theorem encodeChunks_eq (maxBody : Nat) (hmb : 0 < maxBody) (h : MsgHdr) (body : Bytes)
    (hb : body.length < 4294967296) :
    encodeChunks maxBody h body = (items maxBody body).map (fun i => rawOf h i.1 h.seq i.2) := by
  have hle : body.length / maxBody * maxBody ≤ body.length := Nat.div_mul_le_self _ _
  simp only [encodeChunks, if_neg (Nat.pos_iff_ne_zero.mp hmb), Nat.mod_eq_of_lt hb, Nat.add_sub_cancel,
    encodeLoop_eq h maxBody _ body hle, items, List.map_append, List.map_map, List.map_cons, List.map_nil]
  congr 1

theorem items_data (mb : Nat) (body : Bytes) : ((items mb body).map (·.2)).flatten = body := by
  simp only [items, List.map_append, List.map_map, List.map_cons, List.map_nil, List.flatten_append,
    List.flatten_cons, List.flatten_nil, List.append_nil, Function.comp_def, List.map_id']
  exact pieces_flatten _ _ _

theorem items_length (mb : Nat) (body : Bytes) : (items mb body).length = body.length / mb + 1 := by
  simp [items, pieces_length]

theorem items_le (mb : Nat) (hmb : 0 < mb) (body : Bytes) : ∀ i ∈ items mb body, i.2.length ≤ mb := by
  intro i hi
  simp only [items, List.mem_append, List.mem_map, List.mem_cons, List.not_mem_nil, or_false] at hi
  rcases hi with ⟨p, hp, rfl⟩ | rfl
  · exact pieces_le mb _ body p hp
  · simp only [pieces_rest, List.length_drop]
    have := Nat.mod_lt body.length hmb
    have := Nat.div_add_mod body.length mb
    rw [Nat.mul_comm] at this
    omega

/-! ### sequence numbers -/

/-- `instance.sequenceNumber` is a `uint32` -/
def SeqInv (seq : Int) : Prop := 0 ≤ seq ∧ seq < 4294967296

theorem nextSequenceNumber_inv (seq : Int) (h : SeqInv seq) :
    SeqInv (Gen.nextSequenceNumber seq).1 ∧ (Gen.nextSequenceNumber seq).2 = (Gen.nextSequenceNumber seq).1 ∧
    (Gen.nextSequenceNumber seq).1 ≠ seq := by
  obtain ⟨h0, h1⟩ := h
  -- both for the wrap (… → 1) and for the plain step `(seq + 1) % 2^32`
  refine ⟨?_, rfl, ?_⟩ <;> simp only [Gen.nextSequenceNumber, SeqInv, decide_eq_true_eq] <;> split <;> omega

theorem nextSequenceNumber_range (seq : Int) : 0 ≤ (Gen.nextSequenceNumber seq).2 ∧ (Gen.nextSequenceNumber seq).2 < 4294967296 := by
  simp only [Gen.nextSequenceNumber]
  split <;> omega

/-- the counter after `k` numbers have been drawn -/
def seqAfter : Int → Nat → Int
  | seq, 0 => seq
  | seq, k + 1 => seqAfter (Gen.nextSequenceNumber seq).1 k

theorem seqAfter_inv (seq : Int) (k : Nat) (h : SeqInv seq) : SeqInv (seqAfter seq k) := by
  induction k generalizing seq with
  | zero => exact h
  | succ k ih => exact ih _ (nextSequenceNumber_inv seq h).1

/-- the chunks the receiver should decode: the items stamped with the sequence
    numbers the sender draws, one per chunk -/
def stamped (chan req : Nat) : Int → List (UInt8 × Bytes) → List RChunk
  | _, [] => []
  | seq, i :: r =>
    expChunk chan req i.1 (Gen.nextSequenceNumber seq).2.toNat i.2 :: stamped chan req (Gen.nextSequenceNumber seq).1 r

theorem stamped_data (chan req : Nat) (seq : Int) (its : List (UInt8 × Bytes)) :
    (stamped chan req seq its).map (·.data) = its.map (·.2) := by
  induction its generalizing seq with
  | nil => rfl
  | cons i r ih => simp [stamped, expChunk, ih]

theorem stamped_length (chan req : Nat) (seq : Int) (its : List (UInt8 × Bytes)) :
    (stamped chan req seq its).length = its.length := by
  simpa only [List.length_map] using congrArg List.length (stamped_data chan req seq its)

theorem stamped_append (chan req : Nat) (seq : Int) (a b : List (UInt8 × Bytes)) :
    stamped chan req seq (a ++ b) = stamped chan req seq a ++ stamped chan req (seqAfter seq a.length) b := by
  induction a generalizing seq with
  | nil => rfl
  | cons i r ih => simp [stamped, seqAfter, ih]

/-- the last chunk of a stamped list, e.g. the 'F' chunk of `items` -/
theorem stamped_snoc (chan req : Nat) (seq : Int) (a : List (UInt8 × Bytes)) (f : UInt8) (p : Bytes) :
    stamped chan req seq (a ++ [(f, p)]) =
      stamped chan req seq a ++ [expChunk chan req f (Gen.nextSequenceNumber (seqAfter seq a.length)).2.toNat p] := by
  rw [stamped_append]; rfl

theorem stamped_mem {chan req : Nat} {seq : Int} {its : List (UInt8 × Bytes)} {c : RChunk}
    (hc : c ∈ stamped chan req seq its) :
    c.requestID = req ∧ c.channelID = chan ∧ ∃ i ∈ its, c.chunkType = i.1 ∧ c.data = i.2 := by
  induction its generalizing seq with
  | nil => simp [stamped] at hc
  | cons i r ih =>
    simp only [stamped, List.mem_cons] at hc
    rcases hc with rfl | hc
    · exact ⟨rfl, rfl, i, by simp, rfl, rfl⟩
    · obtain ⟨a, b, j, hj, e⟩ := ih hc
      exact ⟨a, b, j, by simp [hj], e⟩

/-! ### the send loop -/

/-- wire chunks and the chunks the receiver decodes from them, pairwise `WireOK` -/
inductive Wires (insts : Nat → List Side) (S : Side) : List Bytes → List RChunk → Prop
  | nil : Wires insts S [] []
  | cons {w c ws cs} : WireOK insts S w c → Wires insts S ws cs → Wires insts S (w :: ws) (c :: cs)

theorem Wires.length_eq {insts S ws cs} (h : Wires insts S ws cs) : ws.length = cs.length := by
  induction h with
  | nil => rfl
  | cons _ _ ih => simp [ih]

theorem Wires.mem {insts S ws cs} (h : Wires insts S ws cs) : ∀ w ∈ ws, ∃ c ∈ cs, WireOK insts S w c := by
  induction h with
  | nil => simp
  | cons h1 _ ih =>
    intro w hw
    simp only [List.mem_cons] at hw
    rcases hw with rfl | hw
    · exact ⟨_, by simp, h1⟩
    · obtain ⟨c, hc, hwc⟩ := ih w hw
      exact ⟨c, by simp [hc], hwc⟩

theorem Wires.snoc_inv {insts S ws a x} (h : Wires insts S ws (a ++ [x])) :
    ∃ wa wx, ws = wa ++ [wx] ∧ Wires insts S wa a ∧ WireOK insts S wx x := by
  induction a generalizing ws with
  | nil =>
    cases h with
    | cons h1 hr => cases hr; exact ⟨[], _, rfl, .nil, h1⟩
  | cons c a ih =>
    cases h with
    | cons h1 hr =>
      obtain ⟨wa, wx, e, h2, h3⟩ := ih hr
      exact ⟨_ :: wa, wx, by simp [e], .cons h1 h2, h3⟩

theorem Wires.data_le {insts : Nat → List Side} {S : Side} {ws : List Bytes} {chan req : Nat} {seq : Int}
    {maxBody : Nat} (hmb : 0 < maxBody) {body : Bytes}
    (hW : Wires insts S ws (stamped chan req seq (items maxBody body))) :
    ∀ w ∈ ws, ∃ c, WireOK insts S w c ∧ c.data.length ≤ maxBody ∧ c.requestID = req := by
  intro w hw
  obtain ⟨c, hcm, hwc⟩ := hW.mem w hw
  obtain ⟨hreq, -, i, hi, -, hdata⟩ := stamped_mem hcm
  exact ⟨c, hwc, hdata ▸ items_le maxBody hmb body i hi, hreq⟩

/-- the chunks after the first (`first = false`): each draws the next sequence number -/
theorem sendLoop_stamped {S : Side} {insts : Nat → List Side} {h : MsgHdr} (hC : Carries insts S h)
    (hmt : h.msgType.length = 3) (s₀ : Nat) (seq : Int) (its : List (UInt8 × Bytes)) :
    ∃ ws, sendLoop S seq false (its.map (fun i => rawOf h i.1 s₀ i.2)) = (seqAfter seq its.length, .ok ws) ∧
      Wires insts S ws (stamped h.channelID h.requestID seq its) := by
  induction its generalizing seq with
  | nil => exact ⟨[], by simp [sendLoop, seqAfter], .nil⟩
  | cons i r ih =>
    obtain ⟨n0, n1⟩ := nextSequenceNumber_range seq
    obtain ⟨w, hw, hwc⟩ := hC i.1 (Gen.nextSequenceNumber seq).2.toNat i.2 (by omega)
    obtain ⟨ws, hws, hW⟩ := ih (Gen.nextSequenceNumber seq).1
    refine ⟨w :: ws, ?_, .cons hwc hW⟩
    simp only [List.map_cons, sendLoop, Bool.false_eq_true, if_false]
    rw [putU32_seq h i.1 _ _ i.2 hmt, hw]
    simp only [hws, List.length_cons, seqAfter]

theorem sendMessage_ok {S : Side} {insts : Nat → List Side} {chan tok req : Nat}
    (hC : Carries insts S ⟨typeMSG, chan, tok, 0, req⟩) (maxBody : Nat) (hmb : 0 < maxBody)
    (seq : Int) (body : Bytes) (hb : body.length < 4294967296) :
    ∃ ws, sendMessage S maxBody seq typeMSG chan tok req body =
        (seqAfter seq (items maxBody body).length, .ok ws) ∧
      Wires insts S ws (stamped chan req seq (items maxBody body)) := by
  obtain ⟨n0, n1⟩ := nextSequenceNumber_range seq
  simp only [sendMessage]
  rw [encodeChunks_eq maxBody hmb _ body hb]
  -- `rawOf` overwrites the header's sequence number
  have e : ∀ i : UInt8 × Bytes, rawOf ⟨typeMSG, chan, tok, (Gen.nextSequenceNumber seq).2.toNat, req⟩ i.1
      (Gen.nextSequenceNumber seq).2.toNat i.2 =
      rawOf ⟨typeMSG, chan, tok, 0, req⟩ i.1 (Gen.nextSequenceNumber seq).2.toNat i.2 := fun _ => rfl
  simp only [e]
  -- the first chunk is not patched: it already carries the number `newMessage` drew
  rcases hits : items maxBody body with _ | ⟨i, r⟩
  · simp [items] at hits
  · obtain ⟨w, hw, hwc⟩ := hC i.1 (Gen.nextSequenceNumber seq).2.toNat i.2 (by omega)
    obtain ⟨ws, hws, hW⟩ := sendLoop_stamped hC rfl (Gen.nextSequenceNumber seq).2.toNat (Gen.nextSequenceNumber seq).1 r
    refine ⟨w :: ws, ?_, .cons hwc hW⟩
    simp only [List.map_cons, sendLoop, if_true, hw, hws, List.length_cons, seqAfter]

/-! ### mergeChunks -/

/-- no chunk carries the sequence number of its predecessor (`k`); the first
    chunk of the message (`first = true`) has no predecessor -/
def NoAdjDup : Bool → Nat → List RChunk → Prop
  | _, _, [] => True
  | first, k, c :: cs => (first = true ∨ c.seq ≠ k) ∧ NoAdjDup false c.seq cs

theorem mergeLoop_eq (first : Bool) (k : Nat) (cs : List RChunk) (h : NoAdjDup first k cs) :
    mergeLoop first k cs = (cs.map (·.data)).flatten := by
  induction cs generalizing first k with
  | nil => rfl
  | cons c cs ih =>
    obtain ⟨h1, h2⟩ := h
    have : ¬ (first = false ∧ c.seq = k) := by
      rcases h1 with h1 | h1
      · simp [h1]
      · exact fun h => h1 h.2
    simp only [mergeLoop, if_neg this, List.map_cons, List.flatten_cons, ih _ _ h2]

theorem mergeChunks_eq (cs : List RChunk) (h : NoAdjDup true 0 cs) :
    mergeChunks cs = (cs.map (·.data)).flatten := by
  match cs, h with
  | [], _ => rfl
  | [c], _ => simp [mergeChunks]
  | c :: d :: r, h => simp only [mergeChunks]; exact mergeLoop_eq true 0 _ h

theorem stamped_noAdjDup (chan req : Nat) (seq : Int) (hinv : SeqInv seq) (first : Bool) (k : Nat)
    (hk : first = true ∨ (k : Int) = seq) (its : List (UInt8 × Bytes)) : NoAdjDup first k (stamped chan req seq its) := by
  induction its generalizing seq first k with
  | nil => trivial
  | cons i r ih =>
    obtain ⟨i1, i2, i4⟩ := nextSequenceNumber_inv seq hinv
    refine ⟨?_, ih _ i1 false _ (Or.inr ?_)⟩
    · rcases hk with hk | hk
      · exact Or.inl hk
      · right; simp only [expChunk]; have := i1.1; omega
    · simp only [expChunk]; have := i1.1; omega

/-! ### the receive loop -/

theorem Table.set_set (t : Table) (k : Nat) (a b : List RChunk) : (t.set k a).set k b = t.set k b := by
  funext i; simp only [Table.set]; split <;> rfl

@[simp] theorem Table.set_get (t : Table) (k : Nat) (a : List RChunk) : (t.set k a) k = a := by
  simp [Table.set]

theorem Table.set_nil_of_nil (t : Table) (k : Nat) (h : t k = []) : t.set k [] = t := by
  funext i; simp only [Table.set]; split
  · rename_i e; rw [e, h]
  · rfl

theorem receiveAll_append (insts : Nat → List Side) (lim : Limits) (t : Table) (a b : List Bytes) :
    receiveAll insts lim t (a ++ b) =
      match receiveAll insts lim t a with
      | (t', some r, left) => (t', some r, left ++ b)
      | (t', none, _) => receiveAll insts lim t' b := by
  induction a generalizing t with
  | nil => simp [receiveAll]
  | cons w ws ih =>
    simp only [List.cons_append, receiveAll]
    cases h : receiveStep insts lim t w with
    | mk t' o =>
      cases o with
      | none => simp only [ih]
      | some r => simp

/-- Induction on the intermediate pieces with the table general: a 'C' chunk is appended to the
    entry of `req`, the 'F' chunk merges the entry and clears it.  `MaxChunkCount` is tested on 'C'
    chunks only, so `hcount` does not count the final chunk. -/
theorem receiveAll_stamped (insts : Nat → List Side) (lim : Limits) (S : Side) (chan req : Nat)
    (ps : List Bytes) (p : Bytes) (seq : Int) (ws : List Bytes) (t : Table)
    (hW : Wires insts S ws (stamped chan req seq (ps.map (fun q => (chunkC, q)) ++ [(chunkF, p)])))
    (hcount : lim.maxChunkCount = 0 ∨ (t req).length + ps.length ≤ lim.maxChunkCount)
    (hsize : lim.maxMessageSize = 0 ∨ (mergeChunks (t req ++
      stamped chan req seq (ps.map (fun q => (chunkC, q)) ++ [(chunkF, p)]))).length ≤ lim.maxMessageSize) :
    receiveAll insts lim t ws =
      (t.set req [], some (.ok ⟨req, chan, mergeChunks (t req ++
        stamped chan req seq (ps.map (fun q => (chunkC, q)) ++ [(chunkF, p)]))⟩), []) := by
  induction ps generalizing ws t seq with
  | nil =>
    cases hW with
    | cons h1 hr =>
      cases hr
      have := Nat.mod_le (mergeChunks (t req ++ stamped chan req seq [(chunkF, p)])).length 4294967296
      simp only [List.map_nil, List.nil_append] at hsize ⊢
      simp only [receiveAll, receiveStep, h1.read, stamped, expChunk]
      rw [if_neg (by decide), if_neg (by decide), if_neg (by simp only [stamped, expChunk] at hsize this; omega)]
  | cons q ps ih =>
    simp only [List.map_cons, List.cons_append, stamped] at hW hsize ⊢
    cases hW with
    | cons h1 hr =>
      have := Nat.mod_le (t req ++ [expChunk chan req chunkC (Gen.nextSequenceNumber seq).2.toNat q]).length 4294967296
      simp only [List.length_cons] at hcount
      simp only [receiveAll, receiveStep, h1.read, expChunk]
      rw [if_neg (by decide), if_pos trivial,
        if_neg (by simp only [expChunk, List.length_append, List.length_cons, List.length_nil] at *; omega)]
      simp only
      rw [ih _ _ _ hr
        (by simp only [Table.set_get, List.length_append, List.length_cons, List.length_nil]; omega)
        (by simpa only [Table.set_get, List.append_assoc, List.cons_append, List.nil_append, expChunk] using hsize)]
      simp only [Table.set_set, Table.set_get, List.append_assoc, List.cons_append, List.nil_append]

/-! ### one message end to end -/

/-- One `MSG` message through the send path and the receive path of the model; `Wires` carries the
    per-chunk facts (length, size field, chunk type). -/
theorem message_roundtrip {S : Side} {insts : Nat → List Side} {chan tok req : Nat}
    (hC : Carries insts S ⟨typeMSG, chan, tok, 0, req⟩) (lim : Limits)
    (maxBody : Nat) (hmb : 0 < maxBody) (seq : Int) (hinv : SeqInv seq)
    (body : Bytes) (hb : body.length < 4294967296) (t : Table) (ht : t req = [])
    (hcount : lim.maxChunkCount = 0 ∨ body.length / maxBody ≤ lim.maxChunkCount)
    (hsize : lim.maxMessageSize = 0 ∨ body.length ≤ lim.maxMessageSize) :
    ∃ ws, sendMessage S maxBody seq typeMSG chan tok req body =
        (seqAfter seq (body.length / maxBody + 1), .ok ws) ∧
      ws.length = body.length / maxBody + 1 ∧
      receiveAll insts lim t ws = (t.set req [], some (.ok ⟨req, chan, body⟩), []) ∧
      Wires insts S ws (stamped chan req seq (items maxBody body)) := by
  obtain ⟨ws, hsend, hW⟩ := sendMessage_ok hC maxBody hmb seq body hb
  have hlen := items_length maxBody body
  -- with nothing buffered for `req`, what `Receive` merges is the body
  have hmerge : mergeChunks (t req ++ stamped chan req seq (items maxBody body)) = body := by
    rw [ht, List.nil_append, mergeChunks_eq _ (stamped_noAdjDup _ _ seq hinv true 0 (Or.inl rfl) _), stamped_data,
      items_data]
  refine ⟨ws, by rw [hsend, hlen], by rw [hW.length_eq, stamped_length, hlen], ?_, hW⟩
  exact (receiveAll_stamped insts lim S chan req _ _ seq ws t hW
    (by rw [ht, pieces_length]; simpa using hcount)
    (hsize.imp_right (Nat.le_trans (Nat.le_of_eq (congrArg List.length hmerge))))).trans
    (congrArg (fun b => (_, some (Res.ok (MsgOut.mk req chan b)), _)) hmerge)

/-! ### several messages over one instance -/

/-- A session over one instance, for any two sides under `Paired`: the round trip (nothing is
    buffered under the request ids, so every `Receive` call leaves the table as it found it) and
    the per-chunk facts of everything written.  `session_roundtrip` below is its first part. -/
theorem session_ok {S R : Side} (hp : Paired S R) (insts : Nat → List Side) (lim : Limits)
    (maxBody : Nat) (hmb : 0 < maxBody) (chan tok : Nat) (hc : chan < 4294967296)
    (hi : ∃ rest, (insts chan).reverse = R :: rest) (msgs : List (Nat × Bytes)) (t : Table)
    (hm : ∀ m ∈ msgs, m.1 < 4294967296 ∧ m.2.length < 4294967296 ∧ t m.1 = [] ∧
      (lim.maxChunkCount = 0 ∨ m.2.length / maxBody ≤ lim.maxChunkCount) ∧
      (lim.maxMessageSize = 0 ∨ m.2.length ≤ lim.maxMessageSize))
    (seq : Int) (hinv : SeqInv seq) :
    ∃ wire seq', sendSession S maxBody chan tok seq msgs = (seq', .ok wire) ∧ SeqInv seq' ∧ msgs.length ≤ wire.length ∧
      (∀ fuel, wire.length ≤ fuel →
        receiveMany insts lim fuel t wire = msgs.map (fun m => .ok ⟨m.1, chan, m.2⟩)) ∧
      ∀ w ∈ wire, ∃ c, WireOK insts S w c ∧ c.data.length ≤ maxBody ∧ c.requestID ∈ msgs.map (·.1) := by
  induction msgs generalizing seq with
  | nil => exact ⟨[], seq, rfl, hinv, Nat.le_refl _, fun fuel _ => by cases fuel <;> rfl, by simp⟩
  | cons m ms ih =>
    obtain ⟨h1, h2, h3, h4, h5⟩ := hm m (by simp)
    obtain ⟨ws, hs, hl, hr, hW⟩ := message_roundtrip (chunk_roundtrip hp insts _ rfl hc h1 hi) lim maxBody hmb seq hinv m.2 h2 t h3 h4 h5
    obtain ⟨rest, sq', hs', hinv', hlen', hrest, hfacts⟩ := ih (fun m' hm' => hm m' (by simp [hm'])) _ (seqAfter_inv seq _ hinv)
    refine ⟨ws ++ rest, sq', ?_, hinv', ?_, ?_, ?_⟩
    · simp only [sendSession]
      rw [hs]
      simp only []   -- the `match` on the pair `(sq, .ok ws)`
      rw [hs']
    · have q1 : 1 ≤ ws.length := by rw [hl]; exact Nat.le_add_left _ _
      have q2 := hlen'
      simp only [List.length_append, List.length_cons]
      omega
    · intro fuel hf
      match ws, hl, hr, fuel, hf with
      | w :: ws', _, hr, f + 1, hf =>
        -- the first call of `Receive` consumes exactly the chunks of `m` and leaves the table as it was
        have hra := receiveAll_append insts lim t (w :: ws') rest
        rw [hr] at hra
        simp only [List.cons_append, List.nil_append] at hra hf ⊢
        simp only [receiveMany, hra, List.map_cons, Table.set_nil_of_nil t m.1 h3]
        rw [hrest f (by simp only [List.length_append, List.length_cons] at hf; omega)]
    · intro w hw
      rcases List.mem_append.mp hw with hw | hw
      · obtain ⟨c, h1, h2, h3⟩ := Wires.data_le hmb hW w hw
        exact ⟨c, h1, h2, h3 ▸ List.mem_cons_self⟩
      · obtain ⟨c, h1, h2, h3⟩ := hfacts w hw
        exact ⟨c, h1, h2, List.mem_cons_of_mem _ h3⟩

/-- the round-trip part of `session_ok`: every message of a session comes back, in order, with its
    request id and body; the counter stays a `uint32`.  The policy table enters in
    `C07_session_roundtrip`. -/
theorem session_roundtrip {S R : Side} (hp : Paired S R) (insts : Nat → List Side) (lim : Limits)
    (maxBody : Nat) (hmb : 0 < maxBody) (chan tok : Nat) (hc : chan < 4294967296)
    (hi : ∃ rest, (insts chan).reverse = R :: rest) (msgs : List (Nat × Bytes)) (t : Table)
    (hm : ∀ m ∈ msgs, m.1 < 4294967296 ∧ m.2.length < 4294967296 ∧ t m.1 = [] ∧
      (lim.maxChunkCount = 0 ∨ m.2.length / maxBody ≤ lim.maxChunkCount) ∧
      (lim.maxMessageSize = 0 ∨ m.2.length ≤ lim.maxMessageSize))
    (seq : Int) (hinv : SeqInv seq) :
    ∃ wire seq', sendSession S maxBody chan tok seq msgs = (seq', .ok wire) ∧ SeqInv seq' ∧ msgs.length ≤ wire.length ∧
      ∀ fuel, wire.length ≤ fuel →
        receiveMany insts lim fuel t wire = msgs.map (fun m => .ok ⟨m.1, chan, m.2⟩) := by
  obtain ⟨wire, sq, h1, h2, h3, h4, -⟩ := session_ok hp insts lim maxBody hmb chan tok hc hi msgs t hm seq hinv
  exact ⟨wire, sq, h1, h2, h3, h4⟩

/-! ### agreement with the length-only model -/

/-- the byte model and the length-only model `secureLen` (C38) agree on the
    length of a secured symmetric chunk, for every row whose cipher keeps block
    sizes (`BlockRow`), every mode and body size -/
theorem chunkLen_eq_secureLen {a : AlgoParams} (ha : BlockRow a) (m : Mode) (pn : Bool)
    (c : Crypto) (n : Nat) :
    ((chunkLen ⟨m, pn, a, c⟩ (8 + n) : Nat) : Int) = (secureLen a m (rawLenOfBody n)).chunkLen := by
  obtain ⟨hb, hp, hs, hr⟩ := ha
  have hr' : ¬ (a.remoteSignatureLength > 256) := by omega
  cases m
  · simp [chunkLen, secureLen_none]; omega
  · simp only [chunkLen, tailLen, Side.encrypts, secureLen_sign]
    simp; omega
  · have hB : 0 < a.plaintextBlockSize.toNat := by omega
    have hal := plainLen_aligned ⟨.signAndEncrypt, pn, a, c⟩ (8 + n) hB
    have hbs : a.blockSize.toNat = a.plaintextBlockSize.toNat := by rw [hp]
    have hcast : ((a.plaintextBlockSize.toNat : Nat) : Int) = a.blockSize := by omega
    -- what is rounded up, as a natural number
    have e : (n : Int) + 9 + a.signatureLength = ((8 + n + a.signatureLength.toNat + 1 : Nat) : Int) := by omega
    simp only [chunkLen, tailLen, Side.encrypts, secureLen_enc ⟨hb, hp, hs, hr⟩ (Int.natCast_nonneg n), hbs]
    simp only [reduceCtorEq, decide_true, Bool.true_or, if_true, if_false]
    rw [Nat.div_mul_cancel (Nat.dvd_of_mod_eq_zero hal), e, ← hcast, blockCeil_natCast hB]
    simp only [plainLen, paddingLength_eq, paddingBytes, hr', if_false]
    omega

end Opcua.Chunk
