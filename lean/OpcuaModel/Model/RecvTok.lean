import OpcuaModel.Model.Recv
import OpcuaModel.Model.Tokens
/-
  The receive path of a secured CLIENT channel across token renewals: the
  instance table of `Model/Tokens.lean` in front of the loop body of `Receive`
  (`Model/Recv.lean`).  A frame is (channel id in the header, identity of the
  keys it was secured with, the chunk it opens to); `readChunk` accepts it iff
  `verifyAndDecrypt` finds an instance of that channel id with these keys —
  and decodes the sequence header without comparing it.  Between frames the
  table changes by OpenSecureChannel responses and expiry timers (`Tokens.Ev`).
-/
namespace Opcua.RecvTok
open Opcua Opcua.Recv Opcua.Tokens

structure SFrame where
  chan : Nat
  key : Nat
  chunk : Chunk
  deriving Repr, DecidableEq

inductive In where
  | frame (f : SFrame)
  /-- OPN response handled / expiry timer fired; a `Tokens.Ev.chunk` is admitted too and ignored (`step` drops its verdict) -/
  | table (e : Ev)
  deriving Repr, DecidableEq

structure St where
  table : Table
  bufs : Bufs
  deriving Repr, DecidableEq

/-- one input: `none` = no result for the caller of `Receive` (table event, or
    the frame was rejected by `readChunk`: that error is what `Receive` returns,
    modelled as `none` delivered) -/
def step (cfg : Cfg) (st : St) : In → St × Option Out
  | .table e => ({ st with table := (stepEv st.table e).1 }, none)
  | .frame f =>
    match verify st.table f.chan f.key with
    | .accepted _ => ({ st with bufs := (Recv.step cfg st.bufs f.chunk).1 }, some (Recv.step cfg st.bufs f.chunk).2)
    | _ => (st, none)

def run (cfg : Cfg) : St → List In → List (Option Out)
  | _, [] => []
  | st, i :: r => (step cfg st i).2 :: run cfg (step cfg st i).1 r

def final (cfg : Cfg) : St → List In → St
  | st, [] => st
  | st, i :: r => final cfg (step cfg st i).1 r

def deliveredTok (outs : List (Option Out)) : List (Nat × Bytes) := delivered (outs.filterMap id)

theorem step_frame_accepted (cfg : Cfg) (st : St) (f : SFrame) {tok : Nat}
    (h : verify st.table f.chan f.key = .accepted tok) :
    step cfg st (.frame f) =
      ({ st with bufs := (Recv.step cfg st.bufs f.chunk).1 }, some (Recv.step cfg st.bufs f.chunk).2) := by
  simp only [step, h]

theorem step_frame_rejected (cfg : Cfg) (st : St) (f : SFrame)
    (h : ∀ tok, verify st.table f.chan f.key ≠ .accepted tok) : step cfg st (.frame f) = (st, none) := by
  cases hv : verify st.table f.chan f.key with
  | accepted tok => exact absurd hv (h tok)
  | _ => simp only [step, hv]

theorem run_append (cfg : Cfg) (st : St) (a b : List In) :
    run cfg st (a ++ b) = run cfg st a ++ run cfg (final cfg st a) b := by
  induction a generalizing st with
  | nil => rfl
  | cons i t ih => simp [run, final, ih]

theorem final_table_events (cfg : Cfg) (st : St) (evs : List Ev) :
    final cfg st (evs.map In.table) = { table := runEvs st.table evs, bufs := st.bufs } := by
  induction evs generalizing st with
  | nil => rfl
  | cons e t ih => simp [final, step, ih, runEvs]

theorem run_table_events (cfg : Cfg) (st : St) (evs : List Ev) :
    (run cfg st (evs.map In.table)).filterMap id = [] := by
  induction evs generalizing st with
  | nil => rfl
  | cons e t ih => simp [run, step, ih]

end Opcua.RecvTok
