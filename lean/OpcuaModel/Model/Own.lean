/-
  Ownership model of the receive path (C20): byte buffers have identities,
  and the model records which buffer every step writes and which buffers a
  delivered message references.

  One chunk frame travels
    uacp.Conn.Receive     b := make([]byte, ReceiveBufSize); io.ReadFull(c, b[…])     (writes b)
    verifyAndDecrypt      None mode: returns m.Data (a slice of b);
                          otherwise b' := make(…); copy(b', r); decrypt into fresh memory   (writes b')
    Receive               intermediate chunk: the chunk (its Data slice) is kept in s.chunks
                          final chunk: mergeChunks — one chunk: chunks[0].Data itself,
                          several: var m []byte; m = append(m, c.Data...)                  (writes m)
    ua.DecodeService      byte strings of the decoded message are sub-slices of the input
                          (Buffer.ReadN, reflect.Value.SetBytes): the message REFERENCES the body buffer

  Whether a step allocates or re-uses is governed by `Facts`, which the
  generator extracts from the source (`Gen.RecvAlias.facts`): when a fact is
  false the model re-uses the buffer of the previous frame, which is what a
  pooled or field-held buffer would do.
-/
namespace Opcua.Own

structure Facts where
  /-- `Conn.Receive` makes its buffer in the call and lets it escape only through its result -/
  recvMakesPerCall : Bool
  /-- `Conn`, `SecureChannel`, `channelInstance` have no `[]byte` / `bytes.Buffer` field that could hold a buffer across calls -/
  noBufferFields : Bool
  /-- no `sync.Pool` in uacp, uasc, ua -/
  noPool : Bool
  /-- `verifyAndDecrypt` copies the chunk into a buffer made in the call before decrypting and never writes its input -/
  decryptCopies : Bool
  /-- `mergeChunks` appends to a slice declared in the call -/
  mergeAppendsFresh : Bool
  deriving Repr, DecidableEq

def Facts.ok (f : Facts) : Bool :=
  f.recvMakesPerCall && f.noBufferFields && f.noPool && f.decryptCopies && f.mergeAppendsFresh

inductive Ev where
  | write (buf : Nat)
  /-- a message referencing `buf` is handed to the application -/
  | deliver (buf : Nat)
  deriving Repr, DecidableEq

/-- one chunk frame: secured or not, final or intermediate, request id -/
structure Op where
  secure : Bool
  final : Bool
  req : Nat
  deriving Repr, DecidableEq

structure St where
  /-- next fresh buffer identity -/
  next : Nat := 0
  /-- the frame buffer / decrypt buffer / merge buffer a re-using implementation would take again -/
  lastFrame : Option Nat := none
  lastPlain : Option Nat := none
  lastMerge : Option Nat := none
  /-- `s.chunks`: buffers referenced by buffered intermediate chunks -/
  chunks : List (Nat × List Nat) := []
  /-- events, newest first -/
  trace : List Ev := []
  deriving Repr, DecidableEq

def getChunks (c : List (Nat × List Nat)) (r : Nat) : List Nat :=
  match c.find? (fun e => e.1 == r) with
  | some e => e.2
  | none => []

def delChunks (c : List (Nat × List Nat)) (r : Nat) : List (Nat × List Nat) := c.filter (fun e => !(e.1 == r))

/-- take a fresh buffer when `fresh`, otherwise the remembered one (if any) -/
def pick (fresh : Bool) (last : Option Nat) (next : Nat) : Nat × Nat :=
  if fresh then (next, next + 1) else
  match last with
  | some b => (b, next)
  | none => (next, next + 1)

/-- allocate (or re-use) a buffer and write it: (buffer, next, trace) -/
def aw (fresh : Bool) (last : Option Nat) (n : Nat) (t : List Ev) : Nat × Nat × List Ev :=
  ((pick fresh last n).1, (pick fresh last n).2, .write (pick fresh last n).1 :: t)

/-- `verifyAndDecrypt`: a secured chunk is copied and decrypted into another
    buffer, an unsecured one stays where it is -/
def plain (fresh : Bool) (sec : Bool) (last : Option Nat) (r1 : Nat × Nat × List Ev) : Nat × Nat × List Ev :=
  match sec with
  | true => aw fresh last r1.2.1 r1.2.2
  | false => r1

/-- the buffers and events of one chunk frame: (frame buffer, plaintext buffer,
    merge buffer if any, next, trace) -/
def core (f : Facts) (st : St) (op : Op) : Nat × Nat × Option Nat × Nat × List Ev :=
  -- Conn.Receive
  let r1 := aw (f.recvMakesPerCall && f.noBufferFields && f.noPool) st.lastFrame st.next st.trace
  -- verifyAndDecrypt
  let r2 := plain (f.decryptCopies && f.noBufferFields && f.noPool) op.secure st.lastPlain r1
  match op.final with
  | false => (r1.1, r2.1, none, r2.2.1, r2.2.2)
  | true =>
    if (getChunks st.chunks op.req ++ [r2.1]).length = 1 then
      (r1.1, r2.1, none, r2.2.1, Ev.deliver r2.1 :: r2.2.2)
    else
      let r3 := aw (f.mergeAppendsFresh && f.noBufferFields && f.noPool) st.lastMerge r2.2.1 r2.2.2
      (r1.1, r2.1, some r3.1, r3.2.1, Ev.deliver r3.1 :: r3.2.2)

def step (f : Facts) (st : St) (op : Op) : St :=
  let c := core f st op
  { next := c.2.2.2.1, trace := c.2.2.2.2,
    lastFrame := some c.1,
    lastPlain := if op.secure then some c.2.1 else st.lastPlain,
    lastMerge := match c.2.2.1 with | some m => some m | none => st.lastMerge,
    chunks := if op.final then delChunks st.chunks op.req
              else (op.req, getChunks st.chunks op.req ++ [c.2.1]) :: delChunks st.chunks op.req }

def run (f : Facts) : St → List Op → St
  | st, [] => st
  | st, op :: r => run f (step f st op) r

/-- no buffer is written after a message referencing it was delivered
    (trace newest first: a write must not hit a buffer delivered earlier) -/
def Frozen : List Ev → Prop
  | [] => True
  | .write b :: older => (Ev.deliver b ∉ older) ∧ Frozen older
  | .deliver _ :: older => Frozen older

instance : (t : List Ev) → Decidable (Frozen t)
  | [] => isTrue trivial
  | .write b :: older => by
      unfold Frozen
      have := instDecidableFrozen older
      infer_instance
  | .deliver _ :: older => by
      unfold Frozen
      exact instDecidableFrozen older

def delivered (t : List Ev) : List Nat :=
  t.filterMap fun | .deliver b => some b | _ => none

/-- every delivered buffer is older than `n`, and nothing delivered was written afterwards -/
def Good (n : Nat) (t : List Ev) : Prop :=
  (∀ b, Ev.deliver b ∈ t → b < n) ∧ Frozen t

def Inv (st : St) : Prop := Good st.next st.trace

/-- a result `(buffer, next, trace)` of `aw` or `plain` whose buffer may be delivered -/
structure Allocated (r : Nat × Nat × List Ev) : Prop where
  good : Good r.2.1 r.2.2
  /-- the buffer has been handed out -/
  lt : r.1 < r.2.1

theorem aw_good {n : Nat} {t : List Ev} (last : Option Nat) (h : Good n t) : Allocated (aw true last n t) := by
  obtain ⟨h1, h2⟩ := h
  simp only [aw, pick, if_true]
  refine ⟨⟨?_, ?_, h2⟩, Nat.lt_succ_self _⟩
  · intro b hb
    rcases List.mem_cons.mp hb with hb | hb
    · cases hb
    · exact Nat.lt_succ_of_lt (h1 b hb)
  · intro hm
    have := h1 n hm
    omega

theorem plain_good {r : Nat × Nat × List Ev} (sec : Bool) (last : Option Nat) (h : Allocated r) :
    Allocated (plain true sec last r) := by
  cases sec
  · exact h
  · exact aw_good last h.good

theorem deliver_good {r : Nat × Nat × List Ev} (h : Allocated r) : Good r.2.1 (Ev.deliver r.1 :: r.2.2) := by
  refine ⟨fun x hx => ?_, h.good.2⟩
  rcases List.mem_cons.mp hx with hx | hx
  · cases hx; exact h.lt
  · exact h.good.1 x hx

theorem good_mono {n m : Nat} {t : List Ev} (h : Good n t) (hm : n ≤ m) : Good m t :=
  ⟨fun b hb => Nat.lt_of_lt_of_le (h.1 b hb) hm, h.2⟩

theorem aw_next_ge (fresh : Bool) (last : Option Nat) (n : Nat) (t : List Ev) : n ≤ (aw fresh last n t).2.1 := by
  simp only [aw, pick]
  split
  · exact Nat.le_succ _
  · split
    · exact Nat.le_refl _
    · exact Nat.le_succ _

theorem step_inv (f : Facts) (hf : f.ok = true) (st : St) (op : Op) (h : Inv st) : Inv (step f st op) := by
  simp only [Facts.ok, Bool.and_eq_true] at hf
  obtain ⟨sec, fin, req⟩ := op
  show Good (core f st ⟨sec, fin, req⟩).2.2.2.1 (core f st ⟨sec, fin, req⟩).2.2.2.2
  unfold core
  simp only [hf, Bool.and_self]
  -- the frame buffer, then the plaintext buffer
  have g2 := plain_good sec st.lastPlain (aw_good st.lastFrame h)
  cases fin
  · exact g2.good
  · simp only
    split
    · exact deliver_good g2
    · exact deliver_good (aw_good st.lastMerge g2.good)

theorem run_inv (f : Facts) (hf : f.ok = true) (st : St) (ops : List Op) (h : Inv st) : Inv (run f st ops) := by
  induction ops generalizing st with
  | nil => exact h
  | cons op r ih => exact ih _ (step_inv f hf st op h)

end Opcua.Own
