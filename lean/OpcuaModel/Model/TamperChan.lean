import OpcuaModel.Model.Tamper
/-
  What calls `channelInstance.verifyAndDecrypt` (property C09):

    SecureChannel.readChunk        (uasc/secure_channel.go)      → `readChunk`
      header / security header decoding (`MessageChunk.Decode`)   → `parseHeaders`
      message-type dispatch, the OPN branch that overwrites
      cfg.SecurityPolicyURI and re-derives the algorithm from the
      certificate carried in the chunk                            → `derive`
    SecureChannel.verifyAndDecrypt (uasc/secure_channel.go)      → `channelVerify`
      instance given (OPN) or retry over the instances stored for
      the chunk's SecureChannelID, newest first

  Crypto stays abstract: each instance carries its own `dec` / `verify`.
-/
namespace Opcua.Tamper
open Opcua

/-- crypto and sizes of one channel instance (`c.algo`) -/
structure Inst where
  RS : Nat
  S : Nat
  dec : Bytes → Option Bytes
  verify : Bytes → Bytes → Bool

inductive Kind where
  | opn | msg | clo
  deriving Repr, DecidableEq

/-- `Buffer.ReadBytes` / `ReadString`: a uint32 length; 0 and 0xFFFFFFFF mean
    empty; otherwise that many bytes must be present. Result: bytes consumed
    (4 + payload) and the payload. -/
def readLenPrefixed (b : Bytes) : Option (Nat × Bytes) :=
  if b.length < 4 then none else
  let n := leVal (b.take 4)
  if n = 0 ∨ n = 4294967295 then some (4, [])
  else if n > (b.drop 4).length then none
  else some (4 + n, (b.drop 4).take n)

/-- the decoded headers of a chunk -/
structure Headers where
  kind : Kind
  /-- `SecureChannelID` -/
  channelID : Nat
  /-- `headerLength` = bytes consumed by `MessageChunk.Decode` -/
  H : Nat
  /-- OPN: SecurityPolicyURI and SenderCertificate as bytes -/
  uri : Bytes := []
  cert : Bytes := []
  deriving Repr, DecidableEq

/-- `MessageChunk.Decode`: 12-byte header, then the symmetric (4 bytes) or the
    asymmetric (three length-prefixed fields) security header. `none` = decode error. -/
def parseHeaders (f : Bytes) : Option Headers :=
  if f.length < 12 then none else
  let ty := f.take 3
  let ch := leVal ((f.drop 8).take 4)
  if ty = [0x4f, 0x50, 0x4e] then           -- "OPN"
    match readLenPrefixed (f.drop 12) with
    | none => none
    | some (n1, uri) =>
      match readLenPrefixed (f.drop (12 + n1)) with
      | none => none
      | some (n2, cert) =>
        match readLenPrefixed (f.drop (12 + n1 + n2)) with
        | none => none
        | some (n3, _) => some { kind := .opn, channelID := ch, H := 12 + n1 + n2 + n3, uri := uri, cert := cert }
  else if ty = [0x4d, 0x53, 0x47] ∨ ty = [0x43, 0x4c, 0x4f] then   -- "MSG" / "CLO"
    if f.length < 16 then none
    else some { kind := if ty = [0x4d, 0x53, 0x47] then .msg else .clo, channelID := ch, H := 16 }
  else none                                 -- invalid message type

/-- a length-prefixed field read at offset `k` of `f` lies inside `f` -/
theorem readLenPrefixed_drop {f : Bytes} {k n : Nat} {p : Bytes} (h : readLenPrefixed (f.drop k) = some (n, p)) :
    4 ≤ n ∧ k + n ≤ f.length := by
  simp only [readLenPrefixed, List.length_drop, Option.ite_none_left_eq_some] at h
  obtain ⟨h4, h⟩ := h
  split at h
  · cases h; omega
  · simp only [Option.ite_none_left_eq_some] at h
    obtain ⟨hl, h⟩ := h
    cases h; omega

theorem parseHeaders_bounds (f : Bytes) (h : Headers) (hp : parseHeaders f = some h) :
    16 ≤ h.H ∧ h.H ≤ f.length := by
  simp only [parseHeaders, Option.ite_none_left_eq_some] at hp
  obtain ⟨h12, hp⟩ := hp
  split at hp
  · -- OPN: three length-prefixed fields, each read inside the frame
    cases h1 : readLenPrefixed (f.drop 12) with
    | none => simp [h1] at hp
    | some r1 =>
      simp only [h1] at hp
      cases h2 : readLenPrefixed (f.drop (12 + r1.1)) with
      | none => simp [h2] at hp
      | some r2 =>
        simp only [h2] at hp
        cases h3 : readLenPrefixed (f.drop (12 + r1.1 + r2.1)) with
        | none => simp [h3] at hp
        | some r3 =>
          simp only [h3, Option.some.injEq] at hp
          have := readLenPrefixed_drop h1; have := readLenPrefixed_drop h2; have := readLenPrefixed_drop h3
          subst hp; dsimp only; omega
  · split at hp
    · split at hp
      · cases hp
      · cases hp; dsimp only; omega
    · cases hp

/-- the secure channel as far as reading a chunk is concerned -/
structure ChanState where
  /-- `cfg.SecurityMode == None`, `== SignAndEncrypt` (shared by all instances) -/
  modeNone : Bool
  modeSE : Bool
  /-- `cfg.SecurityPolicyURI == None`; overwritten by every incoming OPN chunk -/
  policyNone : Bool
  /-- `s.openingInstance` -/
  opening : Option Inst
  /-- `s.instances[id]`, oldest first (a renewal appends) -/
  instances : Nat → List Inst

/-- result of `readChunk` -/
inductive ROut where
  /-- chunk returned: sequence header (8 bytes) and body -/
  | deliver (seqHdr body : Bytes)
  | err
  | eof
  | panic (s : Site)

def ROut.isPanic : ROut → Bool
  | .panic _ => true
  | _ => false

def paramsOf (st : ChanState) (h : Headers) (i : Inst) : Params :=
  { H := h.H, RS := i.RS, S := i.S, enc := st.modeSE || decide (h.kind = .opn) }

/-- one instance on one chunk: `instances[i].verifyAndDecrypt(m, b)` -/
def instVerify (st : ChanState) (h : Headers) (i : Inst) (f : Bytes) : Out :=
  receive st.modeNone st.policyNone (decide (h.kind = .opn)) (paramsOf st h i) i.dec i.verify f

/-- `for i := len(instances)-1; i >= 0; i-- { if …; err == nil { return } }; return nil, err`
    over the instances NEWEST FIRST (the argument is already reversed) -/
def tryInstances (st : ChanState) (h : Headers) (f : Bytes) : List Inst → Out
  | [] => .err
  | i :: rest =>
    match instVerify st h i f with
    | .ok d => .ok d
    | .panic s => .panic s
    | .err => tryInstances st h f rest

/-- the retry loop answers `err` or what one of the instances answers -/
theorem tryInstances_mem (st : ChanState) (h : Headers) (f : Bytes) (l : List Inst) :
    tryInstances st h f l = .err ∨ ∃ i ∈ l, instVerify st h i f = tryInstances st h f l := by
  induction l with
  | nil => exact .inl rfl
  | cons i rest ih =>
    unfold tryInstances
    cases hi : instVerify st h i f with
    | ok d => exact .inr ⟨i, List.mem_cons_self, hi⟩
    | panic s => exact .inr ⟨i, List.mem_cons_self, hi⟩
    | err => exact ih.imp_right fun ⟨j, hj, hv⟩ => ⟨j, List.mem_cons_of_mem _ hj, hv⟩

theorem tryInstances_ok (st : ChanState) (h : Headers) (f : Bytes) (l : List Inst) (d : Bytes)
    (hk : tryInstances st h f l = .ok d) : ∃ i ∈ l, instVerify st h i f = .ok d := by
  rcases tryInstances_mem st h f l with he | ⟨i, hi, hv⟩
  · cases he.symm.trans hk
  · exact ⟨i, hi, hv.trans hk⟩

theorem tryInstances_noPanic (st : ChanState) (h : Headers) (f : Bytes) (l : List Inst)
    (hn : ∀ i ∈ l, (instVerify st h i f).isPanic = false) : (tryInstances st h f l).isPanic = false := by
  rcases tryInstances_mem st h f l with he | ⟨i, hi, hv⟩
  · rw [he]; rfl
  · rw [← hv]; exact hn i hi

theorem tryInstances_err (st : ChanState) (h : Headers) (f : Bytes) (l : List Inst)
    (he : ∀ i ∈ l, instVerify st h i f = .err) : tryInstances st h f l = .err := by
  rcases tryInstances_mem st h f l with he' | ⟨i, hi, hv⟩
  · exact he'
  · exact hv.symm.trans (he i hi)

/-- `SecureChannel.verifyAndDecrypt(m, b, instance)` -/
def channelVerify (st : ChanState) (h : Headers) (given : Option Inst) (f : Bytes) : Out :=
  match given with
  | some i => instVerify st h i f
  | none =>
    -- `if len(instances) == 0 { return error "unable to find instance" }`
    tryInstances st h f (st.instances h.channelID).reverse

/-- `SecureChannel.readChunk` on one received frame. `derive uri cert` is the
    OPN branch: parse the certificate and build `uapolicy.Asymmetric(uri, localKey,
    remoteKey)` (`none` = certificate does not parse / key refused);
    `uriIsNone` tells whether the URI in the chunk is policy None. -/
def readChunk (derive : Bytes → Bytes → Option Inst) (uriIsNone : Bytes → Bool)
    (st : ChanState) (f : Bytes) : ChanState × ROut :=
  match parseHeaders f with
  | none => (st, .err)
  | some h =>
    let finish (st' : ChanState) (given : Option Inst) : ChanState × ROut :=
      match channelVerify st' h given f with
      | .err => (st', .err)
      | .panic s => (st', .panic s)
      | .ok d =>
        -- `m.SequenceHeader.Decode(m.Data)`: 8 bytes needed
        if d.length < 8 then (st', .err) else (st', .deliver (d.take 8) (d.drop 8))
    match h.kind with
    | .clo => (st, .eof)
    | .msg => finish st none
    | .opn =>
      match st.opening with
      | none => (st, .err)                         -- "invalid state. openingInstance is nil."
      | some op =>
        -- `s.cfg.SecurityPolicyURI = m.SecurityPolicyURI` — before anything is verified
        let st1 := { st with policyNone := uriIsNone h.uri }
        if uriIsNone h.uri then finish st1 (some op)
        else
          match derive h.uri h.cert with
          | none => (st1, .err)
          | some a =>
            let st2 := { st1 with opening := some a }   -- `opening.algo = algo`
            finish st2 (some a)

/-- the instances `readChunk` may use for this chunk -/
def candidates (derive : Bytes → Bytes → Option Inst) (uriIsNone : Bytes → Bool) (st : ChanState)
    (h : Headers) : List Inst :=
  match h.kind with
  | .clo => []
  | .msg => st.instances h.channelID
  | .opn =>
    match st.opening with
    | none => []
    | some op => if uriIsNone h.uri then [op] else (derive h.uri h.cert).toList

/-- how `readChunk` turns the verified bytes into its result (`finish` inside `readChunk`) -/
def deliverOf : Out → ROut
  | .err => .err
  | .panic s => .panic s
  | .ok d => if d.length < 8 then .err else .deliver (d.take 8) (d.drop 8)

theorem deliverOf_isPanic (o : Out) : (deliverOf o).isPanic = o.isPanic := by
  cases o with
  | ok d => simp only [deliverOf]; split <;> rfl
  | err => rfl
  | panic s => rfl

theorem deliverOf_eq_deliver {o : Out} {sh body : Bytes} (h : deliverOf o = .deliver sh body) :
    o = .ok (sh ++ body) ∧ sh.length = 8 := by
  cases o with
  | err => cases h
  | panic s => cases h
  | ok d =>
    simp only [deliverOf] at h
    split at h
    · cases h
    · cases h
      exact ⟨by rw [List.take_append_drop], List.length_take_of_le (by omega)⟩

/-- `channelVerify` answers `err` or what one of the instances it was pointed at answers -/
theorem channelVerify_mem (st : ChanState) (h : Headers) (g : Option Inst) (f : Bytes) :
    channelVerify st h g f = .err ∨
      ∃ i ∈ g.elim (st.instances h.channelID) ([·]), instVerify st h i f = channelVerify st h g f := by
  cases g with
  | some i => exact .inr ⟨i, List.mem_singleton_self i, rfl⟩
  | none =>
    exact (tryInstances_mem st h f _).imp_right fun ⟨i, hi, hv⟩ => ⟨i, List.mem_reverse.1 hi, hv⟩

/-- `readChunk`, result by result: an error, EOF, or what ONE candidate instance
    made of the frame under the state that is returned -/
theorem readChunk_cases (derive : Bytes → Bytes → Option Inst) (uriIsNone : Bytes → Bool)
    (st : ChanState) (f : Bytes) :
    (readChunk derive uriIsNone st f).2 = .err ∨ (readChunk derive uriIsNone st f).2 = .eof ∨
    ∃ h, parseHeaders f = some h ∧ ∃ i ∈ candidates derive uriIsNone st h,
      (readChunk derive uriIsNone st f).2 = deliverOf (instVerify (readChunk derive uriIsNone st f).1 h i f) := by
  unfold readChunk
  split
  · exact .inl rfl
  · rename_i h hp
    extract_lets finish
    -- `finish` answers `err` or what one of the instances it was pointed at makes of the frame
    have fin : ∀ st' g, g.elim (st'.instances h.channelID) ([·]) = candidates derive uriIsNone st h →
        (finish st' g).2 = .err ∨ (finish st' g).2 = .eof ∨ ∃ h', parseHeaders f = some h' ∧
          ∃ i ∈ candidates derive uriIsNone st h', (finish st' g).2 = deliverOf (instVerify (finish st' g).1 h' i f) := by
      intro st' g hc
      -- the local `finish` of `readChunk` is `deliverOf` of what `channelVerify` answers
      have e : finish st' g = (st', deliverOf (channelVerify st' h g f)) := by
        simp only [finish]
        cases channelVerify st' h g f with
        | ok d => simp only [deliverOf]; split <;> rfl
        | err => rfl
        | panic s => rfl
      rcases channelVerify_mem st' h g f with he | ⟨i, hi, hv⟩
      · rw [e, he]; exact .inl rfl
      · rw [e, ← hv]; exact .inr (.inr ⟨h, hp, i, hc ▸ hi, rfl⟩)
    split
    · exact .inr (.inl rfl)
    · exact fin st none (by simp only [candidates, *, Option.elim])
    · split
      · exact .inl rfl
      · split
        · exact fin _ _ (by simp only [candidates, *, Option.elim, if_true])
        · split
          · exact .inl rfl
          · exact fin _ _ (by simp only [candidates, *, Option.elim, Option.toList, Bool.false_eq_true, if_false])

/-- on a channel in Sign or SignAndEncrypt mode every instance goes through verification -/
theorem instVerify_secured {st : ChanState} (hm : st.modeNone = false) (h : Headers) (i : Inst) (f : Bytes) :
    instVerify st h i f = verifyAndDecrypt (paramsOf st h i) i.dec i.verify f := by
  rw [instVerify, hm]; rfl

theorem readChunk_msg_err {derive : Bytes → Bytes → Option Inst} {uriIsNone : Bytes → Bool}
    {st : ChanState} {f : Bytes} {h : Headers} (hp : parseHeaders f = some h) (hk : h.kind = .msg)
    (he : ∀ i ∈ st.instances h.channelID, instVerify st h i f = .err) :
    readChunk derive uriIsNone st f = (st, .err) := by
  have : channelVerify st h none f = .err :=
    tryInstances_err _ _ _ _ fun i hi => he i (List.mem_reverse.1 hi)
  simp [readChunk, hp, hk, this]

end Opcua.Tamper
