/-
  Text codecs the NodeID string form is built from (C04), with proved round
  trips.  A Go string / []byte is a list of byte values; they are carried as
  `Nat` (omega friendly) — the well-formedness predicate of a NodeID requires
  `< 256` where the arithmetic depends on it.

    dec / digitsVal      fmt "%d"              / the digit loop of strconv.Atoi, ParseUint
    guidText / newGUID   (*ua.GUID).String     / ua.NewGUID  (hex.DecodeString after removing '-')
    b64enc / b64dec      base64.StdEncoding.EncodeToString / DecodeString
-/
namespace Opcua.NodeIdText

abbrev Text := List Nat

theorem injective_of_parse {α β : Type} {render : α → β} {parse : β → Option α} {a b : α}
    (ha : parse (render a) = some a) (hb : parse (render b) = some b) (h : render a = render b) : a = b :=
  Option.some.inj (ha.symm.trans (h ▸ hb))

/-! ### decimal -/

/-- digits of `n`, least significant first (`f` = fuel, `n < f` suffices) -/
def decRev : Nat → Nat → List Nat
  | 0, _ => []
  | f + 1, n => if n < 10 then [n] else (n % 10) :: decRev f (n / 10)

/-- `fmt.Sprintf("%d", n)` for an unsigned `n` -/
def dec (n : Nat) : Text := ((decRev (n + 1) n).reverse).map (48 + ·)

def isDigit (c : Nat) : Bool := 48 ≤ c && c ≤ 57

/-- the digit loop of `strconv.ParseUint(s, 10, 64)` / `Atoi` without the
    overflow check (the callers' range checks subsume it) -/
def digitsAcc : Nat → Text → Option Nat
  | acc, [] => some acc
  | acc, c :: r => if isDigit c then digitsAcc (acc * 10 + (c - 48)) r else none

/-- a non-empty all-digit text and its value -/
def digitsVal (s : Text) : Option Nat := if s = [] then none else digitsAcc 0 s

theorem decRev_digits (f n : Nat) : ∀ d ∈ decRev f n, d < 10 := by
  fun_induction decRev f n <;> grind

theorem decRev_ne_nil (f n : Nat) (h : n < f) : decRev f n ≠ [] := by
  fun_induction decRev f n <;> grind

theorem digitsAcc_append (acc : Nat) (l : Text) (c : Nat) :
    digitsAcc acc (l ++ [c]) = (digitsAcc acc l).bind (fun v => if isDigit c then some (v * 10 + (c - 48)) else none) := by
  fun_induction digitsAcc acc l <;> simp_all [digitsAcc]

theorem digitsAcc_decRev (f n : Nat) (h : n < f) :
    digitsAcc 0 ((decRev f n).reverse.map (48 + ·)) = some n := by
  fun_induction decRev f n with
  | case1 => omega
  | case2 f n hlt => simp [digitsAcc, isDigit]; omega
  | case3 f n hge ih =>
    rw [List.reverse_cons, List.map_append, List.map_singleton, digitsAcc_append, ih (by omega)]
    simp [isDigit]; omega

theorem dec_ne_nil (n : Nat) : dec n ≠ [] := by
  simpa [dec] using decRev_ne_nil (n + 1) n (by omega)

theorem digitsVal_dec (n : Nat) : digitsVal (dec n) = some n := by
  rw [digitsVal, if_neg (dec_ne_nil n), dec, digitsAcc_decRev _ _ (by omega)]

theorem dec_isDigit (n : Nat) : ∀ c ∈ dec n, isDigit c = true := by
  intro c hc
  simp only [dec, List.mem_map, List.mem_reverse] at hc
  obtain ⟨d, hd, rfl⟩ := hc
  have := decRev_digits _ _ d hd
  simp [isDigit]; omega

theorem dec_injective {a b : Nat} (h : dec a = dec b) : a = b :=
  injective_of_parse (digitsVal_dec a) (digitsVal_dec b) h

/-! ### hexadecimal and the GUID text -/

/-- upper-case hex digit, as `%X` prints it -/
def hexUp (d : Nat) : Nat := if d < 10 then 48 + d else 55 + d

def hexBytes (bs : List Nat) : Text := bs.flatMap fun b => [hexUp (b / 16), hexUp (b % 16)]

/-- `fromHexChar` of encoding/hex: both cases accepted -/
def unhex (c : Nat) : Option Nat :=
  if 48 ≤ c ∧ c ≤ 57 then some (c - 48)
  else if 97 ≤ c ∧ c ≤ 102 then some (c - 87)
  else if 65 ≤ c ∧ c ≤ 70 then some (c - 55)
  else none

/-- `hex.DecodeString`: odd length and foreign characters are errors -/
def hexDecode : Text → Option (List Nat)
  | [] => some []
  | [_] => none
  | a :: b :: r =>
    match unhex a, unhex b, hexDecode r with
    | some x, some y, some t => some ((x * 16 + y) :: t)
    | _, _, _ => none

/-- `(*GUID).String()`: `%08X-%04X-%04X-%04X-%012X` of Data1, Data2, Data3,
    Data4[:2], Data4[2:]; `g` are the 16 bytes in this (big-endian text) order -/
def guidText (g : List Nat) : Text :=
  hexBytes (g.take 4) ++ [45] ++ hexBytes ((g.drop 4).take 2) ++ [45] ++ hexBytes ((g.drop 6).take 2) ++ [45] ++
    hexBytes ((g.drop 8).take 2) ++ [45] ++ hexBytes (g.drop 10)

/-- `ua.NewGUID`: drop every '-', hex-decode, demand 16 bytes (`none` = the nil result) -/
def newGUID (t : Text) : Option (List Nat) :=
  match hexDecode (t.filter (· ≠ 45)) with
  | some b => if b.length = 16 then some b else none
  | none => none

theorem unhex_hexUp : ∀ d < 16, unhex (hexUp d) = some d := by decide

theorem hexDecode_hexBytes (bs : List Nat) (h : ∀ b ∈ bs, b < 256) : hexDecode (hexBytes bs) = some bs := by
  induction bs with
  | nil => rfl
  | cons b r ih =>
    have := h b List.mem_cons_self
    simp only [hexBytes, List.flatMap_cons, List.cons_append, List.nil_append, hexDecode] at ih ⊢
    rw [unhex_hexUp _ (by omega), unhex_hexUp _ (by omega), ih fun x hx => h x (List.mem_cons_of_mem _ hx)]
    exact congrArg (some <| · :: r) (Nat.div_add_mod' b 16)

/-- no hex digit is '-' (45) or ';' (59) -/
theorem hexUp_not (d : Nat) : hexUp d ≠ 45 ∧ hexUp d ≠ 59 := by
  unfold hexUp; split <;> omega

theorem hexBytes_no_dash_semicolon {bs : List Nat} {c : Nat} (h : c ∈ hexBytes bs) : c ≠ 45 ∧ c ≠ 59 := by
  simp only [hexBytes, List.mem_flatMap, List.mem_cons, List.not_mem_nil, or_false] at h
  obtain ⟨b, _, rfl | rfl⟩ := h <;> exact hexUp_not _

theorem hexBytes_append (a b : List Nat) : hexBytes (a ++ b) = hexBytes a ++ hexBytes b := by
  simp [hexBytes]

theorem filter_hexBytes (bs : List Nat) : (hexBytes bs).filter (· ≠ 45) = hexBytes bs := by
  rw [List.filter_eq_self]
  intro c hc
  simpa using (hexBytes_no_dash_semicolon hc).1

theorem guid_regroup (g : List Nat) :
    g.take 4 ++ ((g.drop 4).take 2 ++ ((g.drop 6).take 2 ++ ((g.drop 8).take 2 ++ g.drop 10))) = g := by
  have h (k : Nat) : (g.drop k).take 2 ++ g.drop (k + 2) = g.drop k := by
    rw [← List.drop_drop, List.take_append_drop]
  rw [h 8, h 6, h 4, List.take_append_drop]

theorem filter_guidText (g : List Nat) : (guidText g).filter (· ≠ 45) = hexBytes g := by
  simp only [guidText, List.filter_append, filter_hexBytes]
  have : List.filter (fun x => decide (x ≠ 45)) [45] = [] := by decide
  simp only [this, List.append_nil, List.append_assoc, ← hexBytes_append]
  rw [guid_regroup]

theorem newGUID_guidText (g : List Nat) (hl : g.length = 16) (hb : ∀ b ∈ g, b < 256) :
    newGUID (guidText g) = some g := by
  unfold newGUID
  rw [filter_guidText, hexDecode_hexBytes g hb]
  simp [hl]

theorem guidText_injective {a b : List Nat} (ha : a.length = 16 ∧ ∀ x ∈ a, x < 256)
    (hb : b.length = 16 ∧ ∀ x ∈ b, x < 256) (h : guidText a = guidText b) : a = b :=
  injective_of_parse (newGUID_guidText a ha.1 ha.2) (newGUID_guidText b hb.1 hb.2) h

theorem guidText_no_semicolon (g : List Nat) : 59 ∉ guidText g := by
  intro h
  simp only [guidText, List.mem_append, List.mem_singleton] at h
  grind [hexBytes_no_dash_semicolon]

theorem guidText_ne_nil (g : List Nat) : guidText g ≠ [] := by
  simp [guidText]

/-! ### base64 (standard alphabet, padded) -/

/-- the alphabet `A-Z a-z 0-9 + /` -/
def b64Char (i : Nat) : Nat :=
  if i < 26 then 65 + i else if i < 52 then 71 + i else if i < 62 then i - 4 else if i = 62 then 43 else 47

def b64Val (c : Nat) : Option Nat :=
  if 65 ≤ c ∧ c ≤ 90 then some (c - 65)
  else if 97 ≤ c ∧ c ≤ 122 then some (c - 71)
  else if 48 ≤ c ∧ c ≤ 57 then some (c + 4)
  else if c = 43 then some 62
  else if c = 47 then some 63
  else none

/-- `base64.StdEncoding.EncodeToString` -/
def b64enc : List Nat → Text
  | [] => []
  | [a] => [b64Char (a / 4), b64Char (a % 4 * 16), 61, 61]
  | [a, b] => [b64Char (a / 4), b64Char (a % 4 * 16 + b / 16), b64Char (b % 16 * 4), 61]
  | a :: b :: c :: r =>
    b64Char (a / 4) :: b64Char (a % 4 * 16 + b / 16) :: b64Char (b % 16 * 4 + c / 64) :: b64Char (c % 64) :: b64enc r

/-- the last quantum: `xx==`, `xxx=` or `xxxx` (non-strict: the unused low
    bits of a padded quantum are not checked) -/
def b64Final (a b c d : Nat) : Option (List Nat) :=
  match b64Val a, b64Val b with
  | some x, some y =>
    if c = 61 then
      if d = 61 then some [x * 4 + y / 16] else none
    else match b64Val c with
      | none => none
      | some z =>
        if d = 61 then some [x * 4 + y / 16, y % 16 * 16 + z / 4]
        else match b64Val d with
          | none => none
          | some w => some [x * 4 + y / 16, y % 16 * 16 + z / 4, z % 4 * 64 + w]
  | _, _ => none

/-- the quantum loop of `Encoding.Decode`; input already freed of CR / LF.
    Padding is only accepted in the last quantum and nothing may follow it. -/
def b64decQ : Text → Option (List Nat)
  | [] => some []
  | a :: b :: c :: d :: r =>
    match r with
    | [] => b64Final a b c d
    | e :: r' =>
      match b64Val a, b64Val b, b64Val c, b64Val d, b64decQ (e :: r') with
      | some x, some y, some z, some w, some t =>
        some ((x * 4 + y / 16) :: (y % 16 * 16 + z / 4) :: (z % 4 * 64 + w) :: t)
      | _, _, _, _, _ => none
  | _ => none

/-- `base64.StdEncoding.DecodeString`: CR and LF are skipped anywhere -/
def b64dec (t : Text) : Option (List Nat) := b64decQ (t.filter fun c => c ≠ 13 ∧ c ≠ 10)

theorem b64Val_b64Char : ∀ i < 64, b64Val (b64Char i) = some i := by decide

/-- no character of the alphabet is the padding '=' (61), CR or LF (13, 10: skipped by the decoder), or ';' (59) -/
theorem b64Char_not (i : Nat) : b64Char i ≠ 61 ∧ b64Char i ≠ 13 ∧ b64Char i ≠ 10 ∧ b64Char i ≠ 59 := by
  unfold b64Char
  repeat' split
  all_goals omega

theorem b64enc_no_crlf_semicolon {bs : List Nat} {c : Nat} (h : c ∈ b64enc bs) : c ≠ 13 ∧ c ≠ 10 ∧ c ≠ 59 := by
  fun_induction b64enc bs <;> grind [b64Char_not]

/-- three bytes as the four sextets `b64enc` feeds to `b64Char`, and back as `b64decQ` recombines them -/
theorem sextets {a b c : Nat} (ha : a < 256) (hb : b < 256) (hc : c < 256) :
    a / 4 < 64 ∧ a % 4 * 16 + b / 16 < 64 ∧ b % 16 * 4 + c / 64 < 64 ∧ c % 64 < 64 ∧
    a / 4 * 4 + (a % 4 * 16 + b / 16) / 16 = a ∧
    (a % 4 * 16 + b / 16) % 16 * 16 + (b % 16 * 4 + c / 64) / 4 = b ∧
    (b % 16 * 4 + c / 64) % 4 * 64 + c % 64 = c := by omega

theorem b64decQ_b64enc (bs : List Nat) (h : ∀ b ∈ bs, b < 256) : b64decQ (b64enc bs) = some bs := by
  fun_induction b64enc bs with
  | case1 => rfl
  | case2 a =>
    -- a padded quantum is a full one with zero bytes filled in
    have s := sextets (h a (by simp)) (by decide : 0 < 256) (by decide : 0 < 256)
    simp only [Nat.zero_div, Nat.add_zero] at s
    simp only [b64decQ, b64Final, b64Val_b64Char, s, if_true]
  | case3 a b =>
    have s := sextets (h a (by simp)) (h b (by simp)) (by decide : 0 < 256)
    simp only [Nat.zero_div, Nat.add_zero] at s
    simp only [b64decQ, b64Final, b64Val_b64Char, s, (b64Char_not _).1, if_true, if_false]
  | case4 a b c r ih =>
    have s := sextets (h a (by simp)) (h b (by simp)) (h c (by simp))
    have ih := ih fun x hx => h x (by simp [hx])
    cases her : b64enc r with
    | nil =>
      rw [her] at ih
      simp only [b64decQ, b64Final, b64Val_b64Char, s, (b64Char_not _).1, if_false]
      simpa [b64decQ] using ih
    | cons e r' =>
      rw [her] at ih
      simp only [b64decQ, b64Val_b64Char, s, ih]

theorem b64dec_b64enc (bs : List Nat) (h : ∀ b ∈ bs, b < 256) : b64dec (b64enc bs) = some bs := by
  unfold b64dec
  have : (b64enc bs).filter (fun c => c ≠ 13 ∧ c ≠ 10) = b64enc bs := by
    rw [List.filter_eq_self]
    intro c hc
    have := b64enc_no_crlf_semicolon hc
    simp [this.1, this.2.1]
  rw [this]
  exact b64decQ_b64enc bs h

theorem b64enc_no_semicolon (bs : List Nat) : 59 ∉ b64enc bs := fun h => (b64enc_no_crlf_semicolon h).2.2 rfl

theorem b64enc_injective {a b : List Nat} (ha : ∀ x ∈ a, x < 256) (hb : ∀ x ∈ b, x < 256)
    (h : b64enc a = b64enc b) : a = b :=
  injective_of_parse (b64dec_b64enc a ha) (b64dec_b64enc b hb) h

end Opcua.NodeIdText
