import OpcuaModel.Model.PubLoop
/-
  Two invariants of the publish-loop LTS: `Inv` is kept by every step (`inv_step`) and gives
  `progress`; `InvNoStall` is kept by every step but a failing publish (`noStall_step`) and excludes
  a paused loop with subscriptions registered.
-/
namespace Opcua.PubLoop

/-! the generated constants `step` and `init` read (`C27_gen_facts` states them beside the other
    generated facts) -/
@[simp] theorem pauseCap_eq : pauseCap = 2 := rfl
@[simp] theorem resumeCap_eq : resumeCap = 2 := rfl
@[simp] theorem newClientPauses_eq : Gen.Subs.newClientPauses = 1 := rfl

/-- how many pause tokens may be queued while the loop is at this point, if at most
    one other thread pauses -/
def bound : Loop → Nat
  | .sel | .paused => 2
  | _ => 1

/-- with at most one pausing thread besides the loop, a pause send always finds room -/
def Inv (s : St) : Prop := pausers s ≤ 1 ∧ s.pause + pausers s ≤ bound s.loop

theorem inv_init (subscribes forgets stale staleD reconnects nsubs : Nat)
    (h : forgets + stale + staleD + reconnects ≤ 1) :
    Inv (init subscribes forgets stale staleD reconnects nsubs) := by
  simp only [Inv, init, pausers, bound, newClientPauses_eq, Mux.n]
  omega

/-- pausech untouched, no new pausing thread, the loop stays or moves to where no fewer tokens fit -/
theorem Inv.frame {s s' : St} (hi : Inv s) (hp : s'.pause = s.pause) (hle : pausers s' ≤ pausers s)
    (hb : bound s.loop ≤ bound s'.loop) : Inv s' := by
  have ⟨h1, h2⟩ := hi
  rw [Inv, hp]
  omega

theorem inv_step {s s' : St} {l : Label} (hi : Inv s) (h : step s l = some s') : Inv s' := by
  have ⟨h1, h2⟩ := hi
  cases l <;>
    simp only [step, Option.ite_none_right_eq_some, Option.some.injEq] at h <;>
    obtain ⟨hg, h⟩ := h
  -- the loop takes a token or queues its own; it leaves the outer select by `default:` only when
  -- pausech is empty
  case selTakePause | pausedTakePause | selDefault | selfPause =>
    subst h
    refine ⟨h1, ?_⟩
    change _ + pausers s ≤ _  -- `pausers` reads neither `pause` nor `loop`
    simp only [bound, hg] at h2 ⊢
    omega
  -- a token passes into pausech from a thread that could still send one, or that thread gives up
  case fgSendPause | fgSendPauseD | fgGiveUp | monSendPause =>
    subst h
    simp only [Inv, pausers, Mux.n, hg] at h1 h2 ⊢
    omega
  -- a forget takes the lock: it remains one pausing thread, or is done
  case fgLock | fgStaleLock | fgStaleDLock =>
    split at h <;> cases h
    all_goals
      refine hi.frame rfl ?_ (Nat.le_refl _)
      simp only [pausers, Mux.n, hg]
      omega
  -- tokens and pausing threads are untouched
  all_goals
    subst h
    refine hi.frame rfl (Nat.le_refl _) ?_
    simp only [hg, bound, Nat.le_refl, Nat.reduceLeDiff]

theorem inv_reachable {s₀ s : St} (h0 : Inv s₀) (hr : Reachable s₀ s) : Inv s := by
  induction hr with
  | refl => exact h0
  | step l _ hs ih => exact inv_step ih hs

theorem bound_le (l : Loop) : bound l ≤ 2 := by cases l <;> decide

/-! what `Inv` says about the room in pausech -/

theorem Inv.pause_le {s : St} (hi : Inv s) : s.pause ≤ pauseCap := by
  have := hi.2
  have := bound_le s.loop
  rw [pauseCap_eq]
  omega

theorem Inv.room_selfPause {s : St} (hi : Inv s) (hl : s.loop = .selfPause) : s.pause < pauseCap := by
  have := hi.2
  simp only [hl, bound] at this
  rw [pauseCap_eq]
  omega

theorem Inv.room_pauser {s : St} (hi : Inv s) (hp : 0 < pausers s) : s.pause < pauseCap := by
  have := hi.2
  have := bound_le s.loop
  rw [pauseCap_eq]
  omega

theorem Label.mem_all (l : Label) : l ∈ Label.all := by cases l <;> decide

theorem canStep_of {s : St} (l : Label) (h : (step s l).isSome = true) : canStep s = true :=
  List.any_eq_true.mpr ⟨l, l.mem_all, h⟩

/-- whoever holds subMux across its pause send is a pausing thread, so it finds room in pausech
    (and a holder with a deadline can always give up) -/
theorem holder_moves {s : St} (hi : Inv s) (hm : s.mux ≠ .free) : canStep s = true := by
  cases hmx : s.mux with
  | free => exact absurd hmx hm
  | forgetSending =>
    have hp := hi.room_pauser (by simp only [pausers, hmx, Mux.n]; omega)
    exact canStep_of .fgSendPause (by simpa [step, hmx] using hp)
  | forgetSendingD => exact canStep_of .fgGiveUp (by simp [step, hmx])

/-- a step that waits for subMux only: either the lock is free, or its holder moves -/
theorem canStep_of_mux {s : St} (hi : Inv s) (l : Label)
    (h : s.mux = .free → (step s l).isSome = true) : canStep s = true := by
  by_cases hm : s.mux = .free
  · exact canStep_of l (h hm)
  · exact holder_moves hi hm

theorem progress {s : St} (hi : Inv s) : canStep s = true ∨ atRest s = true := by
  refine (Bool.eq_false_or_eq_true (atRest s)).symm.imp_left fun hrest => ?_
  cases hl : s.loop with
  | sel =>
    by_cases a : 0 < s.resume
    · exact canStep_of .selTakeResume (by simp [step, hl, a])
    by_cases b : 0 < s.pause
    · exact canStep_of .selTakePause (by simp [step, hl, b])
    have hp : s.pause = 0 := by omega
    have hre : s.resume = 0 := by omega
    exact canStep_of .selDefault (by simp [step, hl, hp, hre])
  | paused =>
    by_cases a : 0 < s.resume
    · exact canStep_of .pausedTakeResume (by simp [step, hl, a])
    by_cases b : 0 < s.pause
    · exact canStep_of .pausedTakePause (by simp [step, hl, b])
    have hp : s.pause = 0 := by omega
    have hre : s.resume = 0 := by omega
    by_cases m : s.mux = .free
    case neg => exact holder_moves hi m
    by_cases c : 0 < s.subSend
    · exact canStep_of .subSendResume (by simp [step, c, hre])
    by_cases d : 0 < s.subLock
    · exact canStep_of .subRegister (by simp [step, d, m])
    by_cases e : 0 < s.fgStart
    · exact canStep_of .fgLock (by simp only [step, e, m, and_self, if_true]; split <;> rfl)
    by_cases f : 0 < s.fgStale
    · exact canStep_of .fgStaleLock (by simp only [step, f, m, and_self, if_true]; split <;> rfl)
    by_cases f' : 0 < s.fgStaleD
    · exact canStep_of .fgStaleDLock (by simp only [step, f', m, and_self, if_true]; split <;> rfl)
    by_cases g : 0 < s.monPause
    · exact canStep_of .monSendPause (by simp [step, g, hp])
    by_cases k : 0 < s.monResume
    · exact canStep_of .monSkipResume (by simp [step, k])
    simp [atRest, hl, m] at hrest
    omega
  | pubStart => exact canStep_of_mux hi .pubStart fun m => by simp [step, hl, m]
  | inflight => exact canStep_of .respOk (by simp [step, hl])
  | wantLock => exact canStep_of_mux hi .handle fun m => by simp [step, hl, m]
  | wantLockD => exact canStep_of_mux hi .handleD fun m => by simp [step, hl, m]
  | notifying => exact canStep_of .appTake (by simp [step, hl])
  | selfPause => exact canStep_of .selfPause (by simpa [step, hl] using hi.room_selfPause hl)

theorem Mux.n_eq_zero {m : Mux} : m.n = 0 ↔ m = .free := by
  cases m <;> simp [Mux.n]

/-- what holds from `started n` on as long as no publish fails -/
structure InvNoStall (s : St) : Prop where
  /-- pausech is empty -/
  noToken : s.pause = 0
  /-- no thread may still send a pause signal; in particular nobody holds subMux -/
  noPauser : pausers s = 0
  /-- no reconnect is under way -/
  noReconnect : s.monResume = 0
  /-- the loop is not about to pause itself -/
  noSelfPause : s.loop ≠ .selfPause
  /-- while the loop is still paused, every resume token sent is still in the channel -/
  resumes : s.loop = .paused → s.resume = s.subLock + s.nsubs

theorem noStall_init (n : Nat) : InvNoStall (started n) := by
  constructor <;> simp [started, pausers, Mux.n]

theorem noStall_step {s s' : St} {l : Label} (hi : InvNoStall s) (hl : l ≠ .respErr)
    (h : step s l = some s') : InvNoStall s' := by
  have h1 := hi.noToken
  have h2 := hi.noPauser
  have h3 := hi.noReconnect
  simp only [pausers] at h2
  have hx : s.mux = .free := Mux.n_eq_zero.mp (by omega)
  cases l <;>
    simp only [step, Option.ite_none_right_eq_some, Option.some.injEq] at h <;>
    obtain ⟨hg, h⟩ := h
  case respErr => exact absurd rfl hl
  -- not enabled: these need a queued token, a thread that may still send one, or a reconnect under way,
  case fgLock | fgStaleLock | fgStaleDLock | monSendPause | monSendResume | monSkipResume | selTakePause |
      pausedTakePause =>
    omega
  -- the lock held,
  case fgSendPause | fgSendPauseD | fgGiveUp => simp only [hx, reduceCtorEq, false_and] at hg
  -- or the loop about to pause itself
  case selfPause => exact absurd hg.1 hi.noSelfPause
  -- Subscribe: every resume token sent is matched by a call that has yet to register
  case subSendResume | subRegister =>
    subst h
    refine ⟨h1, hi.noPauser, h3, hi.noSelfPause, fun hp => ?_⟩
    have := hi.resumes hp
    simp only
    omega
  -- the loop moves, never into `paused` or `selfPause`
  all_goals
    subst h
    refine ⟨h1, hi.noPauser, h3, ?_, ?_⟩ <;> simp only [hg, ne_eq, reduceCtorEq, not_false_eq_true, false_implies]

theorem noStall_reachable {n : Nat} {s : St} (hr : ReachableNoErr (started n) s) : InvNoStall s := by
  induction hr with
  | refl => exact noStall_init n
  | step l _ hl hs ih => exact noStall_step ih hl hs

theorem not_stalled_of_noStall {s : St} (hi : InvNoStall s) : stalled s = false := by
  cases hst : stalled s
  · rfl
  · simp only [stalled, atRest, Bool.and_eq_true, decide_eq_true_eq] at hst
    obtain ⟨⟨_, hsl, _, _, _, _, _, _, hlp, _, hre⟩, hn⟩ := hst
    have := hi.resumes hlp
    omega

theorem run_reachable {s₀ : St} :
    ∀ {ls : List Label} {s s' : St}, Reachable s₀ s → run s ls = some s' → Reachable s₀ s'
  | [], s, s', hr, h => Option.some.inj h ▸ hr
  | l :: ls, s, s', hr, h => by
    simp only [run] at h
    split at h
    · rename_i hs
      exact run_reachable (hr.step l hs) h
    · cases h

end Opcua.PubLoop
