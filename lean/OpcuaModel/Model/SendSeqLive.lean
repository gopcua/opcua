import OpcuaModel.Model.SendSeqMutex
/-
  C16(b): absence of deadlock in the UNGUARDED sender / renewal system (every
  interleaving, aborted sends and failed renewals included), from the
  invariant `InvM`.
-/
namespace Opcua.SendSeq

/-- `spawn` does not count: it is always enabled and would make `no_deadlock` say nothing -/
def CanMove (s : St) : Prop := ∃ l, l ≠ Label.spawn ∧ (step? s l).isSome = true

theorem renewer_moves {s : St} (hr : s.rpc.holdsOld = true) : CanMove s := by
  cases hrpc : s.rpc with
  | holdOld => exact ⟨.rCopy, by simp, by simp [step?, hrpc]⟩
  | copied j => exact ⟨.rSendOPN (next (s.seq j)), by simp, by simp [step?, hrpc]⟩
  | sent j => exact ⟨.rInstall 0, by simp, by simp [step?, hrpc]⟩
  | installed j | failed j => exact ⟨.rUnlockOld, by simp, by simp [step?, hrpc]⟩
  | _ => rw [hrpc] at hr; cases hr

theorem lockholder_moves {s : St} (hi : InvM s) {t i : Nat} (hh : holds (s.pc t) = some i) : CanMove s := by
  cases hp : s.pc t <;> simp [hp] at hh
  · next i' req => exact ⟨.newMsg t 1, by simp, by simp [step?, hp]⟩
  · next i' req idx cnt =>
    have hb := ((hi.thr t).wbound _ _ _ _ hp).1
    by_cases hlt : idx < cnt
    · exact ⟨.write t (if idx = 0 then s.seq i' else next (s.seq i')), by simp, by simp [step?, hp, hlt]⟩
    · have : idx = cnt := by omega
      exact ⟨.unlockInst t, by simp, by simp [step?, hp, this]⟩

theorem holder_moves {s : St} (hi : InvM s) {i : Nat} {w : Who} (hh : s.holder i = some w) : CanMove s := by
  cases w with
  | s t => exact lockholder_moves hi (((hi.thr t).mutex i).2 hh)
  | r => exact renewer_moves (hi.sh.rhold i hh).1

/-- a sender that is past the gate and not finished can move, or the thread that blocks it can -/
theorem thread_moves {s : St} (hi : InvM s) {t : Nat} (h1 : s.pc t ≠ .start) (h2 : s.pc t ≠ .done) : CanMove s := by
  cases hp : s.pc t with
  | start => exact absurd hp h1
  | gated => exact ⟨.getActive t, by simp, by simp [step?, hp]⟩
  | hasActive i => exact ⟨.pendAdd t, by simp, by simp [step?, hp]⟩
  | added i | respActive i =>
    cases hh : s.holder i with
    | none => exact ⟨.lockInst t, by simp, by simp [step?, hp, hh]⟩
    | some w => exact holder_moves hi hh
  | locked i | writing i => exact lockholder_moves hi (t := t) (i := i) (by rw [hp]; rfl)
  | unlocked i => exact ⟨.pendDone t, by simp, by simp [step?, hp]⟩
  | done => exact absurd hp h2

/-- something is going on: a renewal, or a sender between the gate and its return -/
def Busy (s : St) : Prop := s.rpc ≠ .idle ∨ ∃ t, s.pc t ≠ .start ∧ s.pc t ≠ .done

/-- NO DEADLOCK (every interleaving, provided the peer answers the OPN request —
    `rInstall` is always available to the renewer): while a renewal or a send is
    in progress some thread can take a step. -/
theorem no_deadlock {s : St} (h : Reachable s) (hb : Busy s) : CanMove s := by
  have hi := reachable_invM h
  cases hrpc : s.rpc with
  | idle =>
    rcases hb with hb | ⟨t, h1, h2⟩
    · exact absurd hrpc hb
    · exact thread_moves hi h1 h2
  | gateLocked => exact ⟨.rWaitBegin, by simp, by simp [step?, hrpc]⟩
  | waiting =>
    -- the wait group is not empty, and whoever is counted can move
    cases hpd : s.pend with
    | nil => exact absurd hpd (hi.sh.waitNE hrpc)
    | cons x rest =>
      have hx : x ∈ s.pend := by simp [hpd]
      cases x with
      | r => exact absurd hx hi.sh.pendR
      | s t =>
        have hc := (hi.thr t).pendS hx
        apply thread_moves hi (t := t) <;> intro hp <;> simp [hp] at hc
  | waited => exact ⟨.rWaitDone, by simp, by simp [step?, hrpc]⟩
  | wantOld =>
    cases hh : s.holder s.old with
    | none => exact ⟨.rLockOld, by simp, by simp [step?, hrpc, hh]⟩
    | some w => exact holder_moves hi hh
  | holdOld | copied j | sent j | installed j | failed j => exact renewer_moves (by rw [hrpc]; rfl)
  | releasedOld => exact ⟨.rUnlock, by simp, by simp [step?, hrpc]⟩

end Opcua.SendSeq
