import OpcuaModel.Model.ChunkSpec
import OpcuaModel.Model.ChunkLemmas
/-
  The implementation model (`Model/Chunk.lean`) against the specification side
  (`Model/ChunkSpec.lean`): byte-for-byte equality of `signAndEncrypt` with
  `Spec.secureChunk`, and the two receivers on the two senders' chunks.
-/
namespace Opcua.Spec
open Opcua Opcua.Chunk

/-- the suite a channel-instance side sends with -/
def suiteOf (S : Side) : Suite :=
  { plainBlock := S.algo.plaintextBlockSize.toNat, cipherBlock := S.algo.blockSize.toNat,
    sigSize := S.algo.signatureLength.toNat, extraPadding := decide (S.algo.remoteSignatureLength > 256),
    crypto := S.crypto }

/-- the suite a specification-following receiver uses for what side `R` receives -/
def recvSuiteOf (R : Side) : Suite :=
  { plainBlock := R.algo.plaintextBlockSize.toNat, cipherBlock := R.algo.blockSize.toNat,
    sigSize := R.algo.remoteSignatureLength.toNat, extraPadding := decide (R.algo.signatureLength > 256),
    crypto := R.crypto }

def toRes : Option Bytes → Res Bytes
  | some w => .ok w
  | none => .err

/-- the unsecured chunk `EncodeChunks` hands to `signAndEncrypt` -/
def rawChunk (p : Parts) : Bytes :=
  header p (12 + p.secHeader.length + 8 + p.body.length) ++ p.secHeader ++ sequenceHeader p ++ p.body

theorem header_length (p : Parts) (n : Nat) (h3 : p.msgType.length = 3) : (header p n).length = 12 := by
  simp [header, h3]

theorem putU32_header (p : Parts) (n v : Nat) (rest : Bytes) (h3 : p.msgType.length = 3) :
    putU32 (header p n ++ rest) 4 v = header p v ++ rest := by
  have h4 : (p.msgType ++ [p.isFinal]).length = 4 := by simp [h3]
  simpa only [header, u32, List.append_assoc] using putU32_field h4 n v (leBytes 4 p.channelId ++ rest)

/-- the specification's count is the code's (`padTo`) plus the `k` extra blocks -/
theorem paddingSize_eq (s : Suite) (n k : Nat) (hpos : 0 < s.plainBlock) :
    paddingSize s n k =
      padTo s.plainBlock (n + s.sigSize + if s.extraPadding then 2 else 1) + k * s.plainBlock := by
  simp only [paddingSize, padTo_eq_mod hpos]

theorem paddingSize_zero (S : Side) (n : Nat) (hpos : 0 < S.algo.plaintextBlockSize.toNat) :
    paddingSize (suiteOf S) n 0 = paddingLength S n := by
  rw [paddingSize_eq _ _ _ hpos]
  simp [suiteOf, paddingLength_eq, paddingBytes]

theorem footer_eq (s : Suite) (ps : Nat) : footer s ps = countTail s.extraPadding ps := by
  simp [footer, countTail, List.replicate_succ]

theorem footer_length (s : Suite) (ps : Nat) : (footer s ps).length = ps + 1 + (if s.extraPadding then 1 else 0) := by
  rw [footer_eq, countTail_length]

/-- the header in front of `n` protected bytes -/
def hdrOf (p : Parts) (n : Nat) : Bytes := header p (12 + p.secHeader.length + n) ++ p.secHeader

theorem hdrOf_length (p : Parts) (n : Nat) (h3 : p.msgType.length = 3) :
    (hdrOf p n).length = 12 + p.secHeader.length := by
  simp [hdrOf, header_length p _ h3]

/-- the specification's sender seals clear ‖ padding like `signAndEncrypt` (`signAndEncrypt_nf`), with its own count -/
theorem secureChunk_seal (S : Side) (enc : Bool) (p : Parts) (k : Nat) :
    secureChunk (suiteOf S) true enc p k =
      S.seal enc (hdrOf p) (sequenceHeader p ++ p.body ++
        S.padding enc (paddingSize (suiteOf S) (sequenceHeader p ++ p.body).length k)) := by
  cases enc
  · simp only [secureChunk, Side.seal, Side.padding, hdrOf, suiteOf, List.append_nil, Bool.not_true, Bool.false_and,
      Bool.not_false, Bool.false_eq_true, if_false, if_true, Nat.add_assoc]
    cases S.crypto.sign _ <;> simp
  · simp only [secureChunk, Side.seal, Side.padding, footer_eq, hdrOf, suiteOf, Bool.not_true, Bool.false_and,
      Bool.false_eq_true, if_false, if_true]
    cases S.crypto.sign _ with
    | none => rfl
    | some sg => simp only []; cases S.crypto.enc _ <;> rfl

/-- `signAndEncrypt` produces, byte for byte, the chunk the
    specification describes (minimal padding), for every side, symmetric or
    asymmetric security header, every part contents. -/
theorem signAndEncrypt_eq_spec (S : Side) (asym : Bool) (p : Parts) (h3 : p.msgType.length = 3)
    (hpos : 0 < S.algo.plaintextBlockSize.toNat) :
    signAndEncrypt S asym (12 + p.secHeader.length) (rawChunk p) =
      toRes (secureChunk (suiteOf S) (decide (S.mode ≠ .none)) (decide (S.mode ≠ .none) && S.encrypts asym) p 0) := by
  have hH : (hdrOf p (8 + p.body.length)).length = 12 + p.secHeader.length := hdrOf_length p _ h3
  have hraw : rawChunk p = hdrOf p (8 + p.body.length) ++ (sequenceHeader p ++ p.body) := by
    simp [rawChunk, hdrOf, List.append_assoc, Nat.add_assoc]
  rw [hraw, ← hH]
  by_cases hm : S.mode = .none
  · simp only [signAndEncrypt, hm, if_true, secureChunk, ne_eq, not_true_eq_false, decide_false, Bool.false_and,
      Bool.not_false, Bool.and_self, toRes, hdrOf, sequenceHeader, List.append_assoc]
    congr 3
    simp; omega
  · have hput : (fun n => putU32 (hdrOf p (8 + p.body.length)) 4 ((hdrOf p (8 + p.body.length)).length + n)) = hdrOf p :=
      funext fun n => by rw [hH]; exact putU32_header p _ _ _ h3
    rw [signAndEncrypt_nf S asym _ _ (by omega) hm, hput, ← paddingSize_zero S _ hpos, ← secureChunk_seal]
    simp only [ne_eq, hm, not_false_eq_true, decide_true, Bool.true_and]
    cases secureChunk _ _ _ _ _ <;> rfl

/-- bound that lets the padding count fit its one or two bytes -/
def countBound (extra : Bool) : Nat := if extra then 65536 else 256

theorem spec_aligned (s : Suite) (n k : Nat) (hpos : 0 < s.plainBlock) :
    (n + (footer s (paddingSize s n k)).length + s.sigSize) % s.plainBlock = 0 := by
  rw [footer_length, paddingSize_eq s n k hpos]
  -- what is counted is (`n` ‖ signature ‖ count bytes) padded to whole blocks, plus `k` blocks
  refine .trans (congrArg (· % s.plainBlock) ?_) ((Nat.add_mul_mod_self_right _ k _).trans
    (padTo_aligned hpos (n + s.sigSize + if s.extraPadding then 2 else 1)))
  split <;> omega

theorem sizeField_header (p : Parts) (v : Nat) (rest : Bytes) (h3 : p.msgType.length = 3) :
    leVal (((header p v ++ rest).drop 4).take 4) = v % 4294967296 := by
  have h4 : (p.msgType ++ [p.isFinal]).length = 4 := by simp [h3]
  simpa only [header, u32At, u32, List.append_assoc] using u32At_field h4 v (leBytes 4 p.channelId ++ rest)

theorem footer_read (s : Suite) (X : Bytes) (ps : Nat) (hps : ps < countBound s.extraPadding) :
    readFooter s.extraPadding (X ++ footer s ps) = some (ps, if s.extraPadding then 2 else 1) := by
  have hl : (X ++ countTail s.extraPadding ps).length = X.length + (ps + 1 + if s.extraPadding then 1 else 0) := by
    rw [List.length_append, countTail_length]
  have h1 := countTail_last X s.extraPadding ps
  rw [footer_eq]
  simp only [readFooter, List.getD_eq_getElem?_getD, countBound] at hps ⊢
  cases hx : s.extraPadding
  · simp only [hx, Bool.false_eq_true, if_false] at hps hl h1 ⊢
    rw [if_neg (by omega), h1, Option.getD_some, toNat_ofNat_small ps hps]
  · have h2 := countTail_prev X ps
    simp only [hx, if_true] at hps hl h1 ⊢
    rw [if_neg (by omega), h1, h2]
    simp only [Option.getD_some, UInt8.toNat_ofNat']
    congr 2; omega

theorem stripFooter_footer (s : Suite) (X : Bytes) (ps : Nat) (hps : ps < countBound s.extraPadding) :
    stripFooter s.extraPadding (X ++ footer s ps) = some X := by
  have hl : (X ++ footer s ps).length - (ps + if s.extraPadding then 2 else 1) = X.length := by
    simp only [List.length_append, footer_length]; split <;> omega
  have hn : ¬ (X ++ footer s ps).length < ps + (if s.extraPadding then 2 else 1) := by
    simp only [List.length_append, footer_length]; split <;> omega
  simp only [stripFooter, footer_read s X ps hps]
  rw [if_neg hn, hl, List.drop_left' rfl, List.take_left' rfl]
  rw [footer_eq, countTail, List.take_left' (by simp)]
  simp

/-- The specification receiver's half, as `verifyAndDecrypt_open` is the implementation's.  A
    chunk `H ++ q` whose size field holds its length and whose tail `q` is (the encryption of,
    if `enc`) clear ‖ footer ‖ signature is opened to the clear part. -/
theorem openChunk_open (r : Suite) (enc : Bool) (H X T sg q : Bytes)
    (hsz : leVal (((H ++ q).drop 4).take 4) = (H ++ q).length) (hsg : sg.length = r.sigSize)
    (hver : r.crypto.verify (H ++ (X ++ T)) sg = true)
    (hq : if enc then r.crypto.dec q = some (X ++ T ++ sg) else q = X ++ T ++ sg)
    (hT : if enc then stripFooter r.extraPadding (X ++ T) = some X else T = []) :
    openChunk r true enc H.length (H ++ q) = some X := by
  have hplain : (if enc then r.crypto.dec q else some q) = some (X ++ T ++ sg) := by
    cases enc <;> simpa using hq
  have hcut : (X ++ T ++ sg).length - r.sigSize = (X ++ T).length := by
    rw [List.length_append, hsg]; omega
  simp only [openChunk, Bool.not_true, Bool.false_and, Bool.false_eq_true, if_false]
  rw [if_neg (by rw [List.length_append]; omega), if_neg (by simp [hsz]), List.drop_left' rfl, List.take_left' rfl,
    hplain]
  simp only [hcut]
  rw [if_neg (by rw [List.length_append, hsg]; omega), List.drop_left' rfl, List.take_left' rfl, hver]
  cases enc
  · simp only [Bool.false_eq_true, if_false] at hT; simp [hT]
  · simpa using hT

/-- A protected specification chunk (minimal padding or `k` extra whole blocks, as long as the
    count fits its bytes) is opened to SequenceHeader ‖ Body by a receiver that follows the
    specification and by `verifyAndDecrypt`. -/
theorem secureChunk_opened {S R : Side} (hp : Paired S R) (asym : Bool) (hm : S.mode ≠ .none)
    (p : Parts) (h3 : p.msgType.length = 3) (k : Nat)
    (hps : S.encrypts asym = true →
      paddingSize (suiteOf S) (sequenceHeader p ++ p.body).length k < countBound (suiteOf S).extraPadding) :
    ∃ w, secureChunk (suiteOf S) true (S.encrypts asym) p k = some w ∧
      (w.length < 4294967296 →
        openChunk (recvSuiteOf R) true (S.encrypts asym) (12 + p.secHeader.length) w = some (sequenceHeader p ++ p.body)) ∧
      verifyAndDecrypt R asym (12 + p.secHeader.length) w = .ok (sequenceHeader p ++ p.body) := by
  -- the chunk is header ‖ `c`, where `c` is (the encryption of) clear ‖ footer ‖ signature
  rw [secureChunk_seal]
  obtain ⟨sg, c, h1, -, hsg, hver, hdec⟩ := hp.seal (S.encrypts asym) (hdrOf p)
    (sequenceHeader p ++ p.body ++ S.padding (S.encrypts asym) (paddingSize (suiteOf S) (sequenceHeader p ++ p.body).length k))
    fun he => by
      have hal := spec_aligned (suiteOf S) (sequenceHeader p ++ p.body).length k hp.pbs_pos
      rw [footer_eq] at hal
      simp only [he, Side.padding, if_true, List.length_append] at hal ⊢
      exact ⟨hal, by simp only [countTail_length]; omega⟩
  have hH := hdrOf_length p c.length h3
  refine ⟨_, h1, fun hlt => ?_, ?_⟩
  · rw [← hH]
    refine openChunk_open (recvSuiteOf R) _ _ _ _ sg c ?_ (hsg.trans hp.rsl.symm) hver hdec ?_
    · rw [hdrOf, List.append_assoc, sizeField_header p _ _ h3, ← List.append_assoc, ← hdrOf, List.length_append, hH,
        Nat.mod_eq_of_lt (by rwa [List.length_append, hH] at hlt)]
    · have hx : (recvSuiteOf R).extraPadding = (suiteOf S).extraPadding := by
        simp only [recvSuiteOf, suiteOf, decide_eq_decide]; exact hp.extra
      by_cases he : S.encrypts asym = true
      · have := stripFooter_footer (suiteOf S) (sequenceHeader p ++ p.body) _ (hps he)
        rw [footer_eq] at this
        simp only [he, if_true, Side.padding, hx]
        exact this
      · simp [he, Side.padding]
  · rw [← hH]
    exact verifyAndDecrypt_open hp asym hm _ _ _ sg c hsg hver
      (paddingOf_padding hp asym _ _ fun he => by simpa [countBound, suiteOf] using hps he) hdec

/-- without security: the specification receiver returns SequenceHeader ‖ Body of the
    specification chunk, whatever the suites -/
theorem openChunk_plain (s r : Suite) (p : Parts) (h3 : p.msgType.length = 3) (k : Nat) :
    ∃ w, secureChunk s false false p k = some w ∧
      (w.length < 4294967296 →
        openChunk r false false (12 + p.secHeader.length) w = some (sequenceHeader p ++ p.body)) := by
  have hH := hdrOf_length p (sequenceHeader p ++ p.body).length h3
  refine ⟨hdrOf p _ ++ (sequenceHeader p ++ p.body), rfl, ?_⟩
  generalize sequenceHeader p ++ p.body = X at hH ⊢
  intro hlt
  have hw : (hdrOf p X.length ++ X).length = 12 + p.secHeader.length + X.length := by rw [List.length_append, hH]
  simp only [openChunk, Bool.not_false, Bool.and_self, if_true]
  rw [if_neg (by omega), hdrOf, List.append_assoc, sizeField_header p _ _ h3, ← List.append_assoc, ← hdrOf, hw,
    Nat.mod_eq_of_lt (hw ▸ hlt), if_neg (by simp), ← hH, List.drop_left' rfl]

/-- the minimal padding (`k = 0`) is below the plaintext block size, so by `Paired.pad_fits` it fits
    its count bytes -/
theorem minimal_fits {S R : Side} (hp : Paired S R) (n : Nat) :
    paddingSize (suiteOf S) n 0 < countBound (suiteOf S).extraPadding := by
  rw [paddingSize_zero S n hp.pbs_pos]
  simpa [countBound, suiteOf] using hp.paddingLength_fits n

/-- Conformance of one protected chunk (mode Sign or SignAndEncrypt, symmetric
    or asymmetric): what `signAndEncrypt` emits IS the specification's chunk, a
    specification-following receiver opens it, and `verifyAndDecrypt` opens it. -/
theorem conformance {S R : Side} (hp : Paired S R) (asym : Bool) (hm : S.mode ≠ .none)
    (p : Parts) (h3 : p.msgType.length = 3) :
    ∃ w, signAndEncrypt S asym (12 + p.secHeader.length) (rawChunk p) = .ok w ∧
      secureChunk (suiteOf S) true (S.encrypts asym) p 0 = some w ∧
      (w.length < 4294967296 →
        openChunk (recvSuiteOf R) true (S.encrypts asym) (12 + p.secHeader.length) w = some (sequenceHeader p ++ p.body)) ∧
      verifyAndDecrypt R asym (12 + p.secHeader.length) w = .ok (sequenceHeader p ++ p.body) := by
  have hlay := signAndEncrypt_eq_spec S asym p h3 hp.pbs_pos
  simp only [ne_eq, hm, not_false_eq_true, decide_true, Bool.true_and] at hlay
  obtain ⟨w, hw, ho, hv⟩ := secureChunk_opened hp asym hm p h3 0 (fun _ => minimal_fits hp _)
  exact ⟨w, by rw [hlay, hw]; rfl, hw, ho, hv⟩

end Opcua.Spec
