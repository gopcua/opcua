import OpcuaModel.Model.Uacp
import OpcuaModel.Model.ChunkMsg
/-
  Composition of two separately modelled layers of the stack:

    framing      `Uacp.receive` / `Uacp.receiveAll`  (Model/Uacp.lean, property C05):
                 `uacp.Conn.Receive` cuts the TCP byte stream, delivered in
                 arbitrary segments, into frames by the 8-byte header
    chunking +   `Chunk.sendSession` / `Chunk.receiveMany`  (Model/Chunk.lean, C07):
    security     what a secure channel writes for a session of messages and what
                 `SecureChannel.Receive` makes of the frames

  The interface between them: every chunk the send path writes is a frame the
  framing layer accepts (`Uacp.wellFormed`): at least 8 bytes, at most the
  receive buffer, size field = length, type not `ERR` (`wire_wellFormed`, from the
  per-chunk facts `Chunk.session_ok` gives).  `stack_session` is the generic
  composition; the instantiation for the policy table is
  `C07_stack_roundtrip` in Props/C07.lean.
-/
namespace Opcua.Stack
open Opcua Opcua.Chunk

theorem readChunk_msg_type {insts : Nat → List Side} {w : Bytes} {c : RChunk}
    (h : readChunk insts w = .ok (some c)) : w.take 3 = typeMSG := by
  unfold readChunk at h
  by_cases h1 : w.length < 16
  · simp [h1] at h
  · by_cases h2 : w.take 3 = typeCLO
    · simp [h1, h2] at h
    · by_cases h3 : w.take 3 = typeMSG
      · exact h3
      · simp [h1, h2, h3] at h

/-- a secured chunk is a frame the framing layer accepts, provided it fits the receive buffer -/
theorem wire_wellFormed {insts : Nat → List Side} {S : Side} {w : Bytes} {c : RChunk} (rcvBuf : Nat)
    (hW : WireOK insts S w c) (hfit : w.length ≤ rcvBuf) (h32 : w.length < 4294967296) :
    Uacp.wellFormed rcvBuf w := by
  obtain ⟨hread, hlen, hsz, -⟩ := hW
  have h16 : 16 ≤ w.length := by
    rw [hlen]; simp only [chunkLen]; omega
  refine ⟨⟨by simp only [Uacp.hdrlen]; omega, hfit, ?_⟩, ?_⟩
  · show u32At w 4 = w.length
    rw [hsz, Nat.mod_eq_of_lt h32]
  · simp only [Uacp.isErrType, readChunk_msg_type hread]
    decide

/-- Composition of the two layers, for any sides under `Paired` (the policy table enters in
    `C07_stack_roundtrip`).  The byte stream of a session, cut into
    ANY segments, is delivered by the framing layer as exactly the chunks
    followed by a clean EOF, and `Receive` turns these chunks back into exactly
    the session. -/
theorem stack_session {S R : Side} (hp : Paired S R) (insts : Nat → List Side) (lim : Limits)
    (maxBody : Nat) (hmb : 0 < maxBody) (chan tok : Nat) (hc : chan < 4294967296)
    (hi : ∃ rest, (insts chan).reverse = R :: rest) (msgs : List (Nat × Bytes)) (t : Table)
    (hm : ∀ m ∈ msgs, m.1 < 4294967296 ∧ m.2.length < 4294967296 ∧ t m.1 = [] ∧
      (lim.maxChunkCount = 0 ∨ m.2.length / maxBody ≤ lim.maxChunkCount) ∧
      (lim.maxMessageSize = 0 ∨ m.2.length ≤ lim.maxMessageSize))
    (seq : Int) (hinv : SeqInv seq) (rcvBuf : Nat) (h8 : 8 ≤ rcvBuf) (hbuf : rcvBuf < 4294967296)
    (hfit : ∀ n, n ≤ maxBody → chunkLen S (8 + n) ≤ rcvBuf) :
    ∃ wire seq', sendSession S maxBody chan tok seq msgs = (seq', .ok wire) ∧ SeqInv seq' ∧
      (∀ segs : Uacp.Stream, segs.flatten = wire.flatten → Uacp.receiveAll rcvBuf segs = (wire, .eof)) ∧
      receiveMany insts lim wire.length t wire = msgs.map (fun m => .ok ⟨m.1, chan, m.2⟩) := by
  obtain ⟨wire, sq, h1, h2, -, h4, hfacts⟩ := session_ok hp insts lim maxBody hmb chan tok hc hi msgs t hm seq hinv
  refine ⟨wire, sq, h1, h2, ?_, h4 _ (Nat.le_refl _)⟩
  intro segs hseg
  have hwf : ∀ f ∈ wire, Uacp.wellFormed rcvBuf f := by
    intro f hf
    obtain ⟨c, hW, hle, -⟩ := hfacts f hf
    have hl : f.length ≤ rcvBuf := by rw [hW.length]; exact hfit _ hle
    exact wire_wellFormed rcvBuf hW hl (by omega)
  exact Uacp.receiveAll_frames_stop (tail := []) hwf (Uacp.receiveFlat_short h8 (Nat.zero_lt_succ 7))
    (by rw [hseg, List.append_nil])

end Opcua.Stack
