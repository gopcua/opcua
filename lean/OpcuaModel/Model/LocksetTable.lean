import OpcuaModel.Model.Lockset
/-
  C36 (partial): the table of syntactic access sites (generated: Gen/RaceFacts.lean) and the
  step from the table to the lockset theorem of Model/Lockset.lean.

  A row is one syntactic access of a field of a shared structure with the mutexes held there.
  Locks and fields are named by struct type ("uasc.SecureChannel.handlersMu"); in the trace model a
  location is (object, field name) and a mutex is (object, mutex name): the assumption `Conforms`
  says that an access of field f of object o executes some row of f and holds the row's mutexes OF
  THE SAME OBJECT o (only mutexes that are fields of the same struct as f count, `own`).
-/
namespace Opcua.Lockset

structure Site where
  id : Nat
  file : String
  line : Nat
  fn : String
  owner : String        -- struct of the field, "<pkg>.<Struct>"
  field : String        -- "<pkg>.<Struct>.<field>"
  kind : String         -- read | write | atomic | sync:<Method>
  fresh : Bool          -- the object was created in the same function (constructor, not yet shared)
  heldW : List String
  heldR : List String
  roots : List String
  deriving Repr, DecidableEq

/-- the rows of a field that count: constructor rows are left out (assumption: unpublished object) -/
def sitesOf (tbl : List Site) (f : String) : List Site :=
  tbl.filter (fun s => s.field == f && !s.fresh)

def Site.isWrite (s : Site) : Bool := s.kind == "write"
def Site.isRead (s : Site) : Bool := s.kind == "read"
def Site.isAtomic (s : Site) : Bool := s.kind == "atomic"

/-- `l` is a mutex field of the struct `owner` -/
def ownLock (owners : List (String × String)) (owner l : String) : Bool :=
  owners.contains (l, owner)

/-- row s is covered by mutex l: a write holds it exclusively, a read in either mode -/
def coveredBy (l : String) (s : Site) : Bool :=
  if s.isWrite then s.heldW.contains l
  else if s.isRead then s.heldW.contains l || s.heldR.contains l
  else true

/-- consistent lockset on the table: no atomic row, every read/write row covered by l -/
def lockedBy (tbl : List Site) (f l : String) : Bool :=
  (sitesOf tbl f).all (fun s => !s.isAtomic && coveredBy l s)

/-- … and l is a mutex of the same struct -/
def protectedBy (tbl : List Site) (owners : List (String × String)) (f l : String) : Bool :=
  lockedBy tbl f l && (sitesOf tbl f).all (fun s => ownLock owners s.owner l)

def readonlyField (tbl : List Site) (f : String) : Bool :=
  (sitesOf tbl f).all (fun s => !s.isWrite && !s.isAtomic)

def atomicField (tbl : List Site) (f : String) : Bool :=
  (sitesOf tbl f).all (fun s => !s.isWrite && !s.isRead) && (sitesOf tbl f).any (·.isAtomic)

/-- two rows of f, one of them a write (or a plain row next to an atomic one), that share no mutex:
    the table shows an inconsistently protected access -/
def unprotectedPair (a b : Site) : Bool :=
  (a.isWrite || (a.isAtomic && (b.isRead || b.isWrite))) && (b.isRead || b.isWrite || b.isAtomic) &&
  !(a.isAtomic && b.isAtomic) &&
  !(a.heldW.any (fun l => b.heldW.contains l || b.heldR.contains l)) &&
  !(b.heldW.any (fun l => a.heldR.contains l))

def candidatePairs (tbl : List Site) (f : String) : List (Nat × Nat) :=
  (sitesOf tbl f).flatMap (fun a => ((sitesOf tbl f).filter (unprotectedPair a)).map (fun b => (a.id, b.id)))

inductive Verdict where
  | sync | atomic | readonly | guarded (l : String) | foreign (l : String) | candidate
  deriving Repr, DecidableEq

def Verdict.text : Verdict → String
  | .sync => "sync" | .atomic => "atomic" | .readonly => "readonly"
  | .guarded l => "protected " ++ l | .foreign l => "foreign " ++ l | .candidate => "candidate"

/-- the classification printed by the driver (mirrors harness/internal/racefacts Table.Verdict) -/
def verdict (tbl : List Site) (owners : List (String × String)) (f : String) : Verdict :=
  let live := sitesOf tbl f
  let plain := live.filter (fun s => s.isRead || s.isWrite)
  let atomics := live.filter (·.isAtomic)
  if plain.isEmpty && atomics.isEmpty && !live.isEmpty then .sync
  else if plain.isEmpty && !atomics.isEmpty then .atomic
  else if !atomics.isEmpty then .candidate
  else if !(plain.any (·.isWrite)) then .readonly
  else
    let cands := match plain.find? (·.isWrite) with
      | some s => s.heldW
      | none => []
    let ok := cands.filter (fun l => lockedBy tbl f l)
    match ok.find? (fun l => live.all (fun s => ownLock owners s.owner l)) with
    | some l => .guarded l
    | none => match ok.head? with
      | some l => .foreign l
      | none => .candidate

/-! ### from the table to traces -/

abbrev ObjTrace := Trace (Nat × String) (Nat × String)

/-- every access of field f of object o in the trace executes a (non-constructor) row of f of the right
    kind and holds, on the same object, the mutexes the row lists (those of the same struct) -/
def Conforms (tbl : List Site) (owners : List (String × String)) (tr : ObjTrace) (o : Nat) (f : String) : Prop :=
  ∀ i t,
    (tr[i]? = some ⟨t, .wr (o, f)⟩ → ∃ s, s ∈ sitesOf tbl f ∧ s.isWrite = true ∧
        (∀ l, l ∈ s.heldW → ownLock owners s.owner l = true → HoldsW tr t (o, l) i)) ∧
    (tr[i]? = some ⟨t, .rd (o, f)⟩ → ∃ s, s ∈ sitesOf tbl f ∧ s.isRead = true ∧
        (∀ l, l ∈ s.heldW → ownLock owners s.owner l = true → HoldsW tr t (o, l) i) ∧
        (∀ l, l ∈ s.heldR → ownLock owners s.owner l = true → HoldsR tr t (o, l) i))

theorem Site.not_read_of_write {s : Site} (h : s.isWrite = true) : s.isRead = false := by
  simp only [Site.isWrite, Site.isRead, beq_iff_eq] at *
  simp [h]

/-- a field whose rows all hold a mutex of their own struct is race free in every conforming trace -/
theorem table_sound {tbl : List Site} {owners : List (String × String)} {f l : String}
    (hp : protectedBy tbl owners f l = true) {tr : ObjTrace} {o : Nat}
    (wf : WF tr) (hc : Conforms tbl owners tr o f) : RaceFree tr (o, f) := by
  apply lockset_sound (l := (o, l)) wf
  simp only [protectedBy, lockedBy, Bool.and_eq_true, List.all_eq_true] at hp
  obtain ⟨hl, ho⟩ := hp
  intro i t
  constructor
  · intro hi
    obtain ⟨s, hs, hw, hh⟩ := (hc i t).1 hi
    have c := (hl s hs).2
    have hown := ho s hs
    simp only [coveredBy, hw, if_true] at c
    exact hh l (by simpa using c) hown
  · intro hi
    obtain ⟨s, hs, hr, hhw, hhr⟩ := (hc i t).2 hi
    have c := (hl s hs).2
    have hown := ho s hs
    have hnw : s.isWrite = false :=
      Bool.eq_false_iff.2 fun h => Bool.false_ne_true ((Site.not_read_of_write h).symm.trans hr)
    simp only [coveredBy, hnw, hr, if_true, Bool.false_eq_true, if_false, Bool.or_eq_true] at c
    rcases c with c | c
    · exact Or.inl (hhw l (by simpa using c) hown)
    · exact Or.inr (hhr l (by simpa using c) hown)

/-- a field that is only read outside constructors is race free in every conforming trace -/
theorem table_readonly_sound {tbl : List Site} {owners : List (String × String)} {f : String}
    (hp : readonlyField tbl f = true) {tr : ObjTrace} {o : Nat}
    (hc : Conforms tbl owners tr o f) : RaceFree tr (o, f) := by
  apply readonly_sound
  intro i t hi
  obtain ⟨s, hs, hw, _⟩ := (hc i t).1 hi
  simp only [readonlyField, List.all_eq_true, Bool.and_eq_true, Bool.not_eq_true'] at hp
  have := (hp s hs).1
  simp [hw] at this

/-! ### reading the table run by run -/

/-- the table cut into runs of consecutive rows of one field, each under its field name -/
def runs : List Site → List (String × List Site)
  | [] => []
  | s :: rest =>
    match runs rest with
    | (k, l) :: gs => if s.field == k then (k, s :: l) :: gs else (s.field, [s]) :: (k, l) :: gs
    | [] => [(s.field, [s])]

/-- `sitesOf` read off the runs: the field name is compared once per run, not once per row (string
    comparison is what evaluating a table predicate in the kernel spends its time on) -/
def sitesIn (g : List (String × List Site)) (f : String) : List Site :=
  g.flatMap (fun r => if r.1 == f then r.2.filter (!·.fresh) else [])

theorem sitesIn_cons (r : String × List Site) (g : List (String × List Site)) (f : String) :
    sitesIn (r :: g) f = sitesIn [r] f ++ sitesIn g f := by simp [sitesIn]

theorem sitesOf_cons (s : Site) (rest : List Site) (f : String) :
    sitesOf (s :: rest) f = sitesIn [(s.field, [s])] f ++ sitesOf rest f := by
  by_cases h : s.field = f <;> cases hf : s.fresh <;> simp [sitesOf, sitesIn, h, hf]

theorem sitesIn_runs (tbl : List Site) (f : String) : sitesIn (runs tbl) f = sitesOf tbl f := by
  induction tbl with
  | nil => rfl
  | cons s rest ih =>
    rw [sitesOf_cons, ← ih, runs]
    cases runs rest with
    | nil => simp [sitesIn]
    | cons r gs =>
      obtain ⟨k, l⟩ := r
      by_cases h : s.field = k
      · subst h
        rw [sitesIn_cons _ gs, ← List.append_assoc]
        by_cases h : s.field = f <;> cases hf : s.fresh <;> simp [sitesIn, h, hf]
      · simpa [h] using sitesIn_cons _ _ f

end Opcua.Lockset
