import OpcuaModel.Model.CodecSplit
/-
  Safety and depth monotonicity of the decoder model (C02).

  `Spec d Q`: on every input state the decoder `d` returns a value that satisfies `Q`,
  or an error, or exceeds one of the two budgets (call depth `fuel`, allocation
  `env.limit`); it never panics and never diverges.  `SafeDec d` is `Spec d` without a
  claim about the value.  `Ext d d'`: on every state on which `d` does not run out of
  depth, `d'` agrees with `d`.  `Good d d' Q` is both.

  The rules follow the decoder monad, so the lemma about a decoder is the term that
  follows its definition; what a later step needs to know about an earlier result (the
  number of elements read, the dimensions read) is the `Q` of the earlier step.  A
  decoder that does not call the recursive coder is `Good` by `Good.refl` of its `Spec`.

  Main results: `decode_safe`, every decoder of the model is safe (`Variant.Decode`
  rejects array lengths below -1 and computes the dimension product in 64 bits, the
  repairs C02.variant-neg-len and C02.variant-dims-overflow, so `reflect.MakeSlice` and
  `split` only see consistent arguments); `decode_mono`, whatever the decoder returns
  within depth `fuel` it returns with every larger depth.
-/
namespace Opcua.Codec
open Opcua

def SafeF (f : Fail) : Prop := f = .err ∨ f = .depth ∨ f = .alloc

def Res.Sat {α : Type} (Q : α → Prop) : Res α → Prop
  | .ok a _ => Q a
  | .fail f => SafeF f

def Spec {α : Type} (d : Dec α) (Q : α → Prop) : Prop := ∀ s, (d s).Sat Q

abbrev SafeDec {α : Type} (d : Dec α) : Prop := Spec d fun _ => True

namespace Spec
variable {α β : Type} {Q : α → Prop}

theorem ok {d : Dec α} (h : Spec d Q) {s s' : St} {a : α} (hs : d s = .ok a s') : Q a := by
  have := h s; rwa [hs] at this

theorem fail {d : Dec α} (h : Spec d Q) {s : St} {f : Fail} (hs : d s = .fail f) : SafeF f := by
  have := h s; rwa [hs] at this

theorem ret {a : α} (h : Q a) : Spec (pure a) Q := fun _ => h
theorem err : Spec (Dec.fail .err : Dec α) Q := fun _ => .inl rfl
theorem depth : Spec (Dec.fail .depth : Dec α) Q := fun _ => .inr (.inl rfl)

theorem bind {d : Dec α} {f : α → Dec β} {R : α → Prop} {Q : β → Prop} (hd : Spec d R)
    (hf : ∀ a, R a → Spec (f a) Q) : Spec (d >>= f) Q := fun s => by
  simp only [Dec.bind_apply]
  exact match d s, hd s with
    | .ok a s', h => hf a h s'
    | .fail _, h => h

theorem mono {d : Dec α} {R : α → Prop} (hd : Spec d R) (h : ∀ a, R a → Q a) : Spec d Q := fun s =>
  match d s, hd s with
  | .ok a _, ha => h a ha
  | .fail _, hf => hf

theorem ite {c : Prop} [Decidable c] {a b : Dec α} (ha : c → Spec a Q) (hb : ¬ c → Spec b Q) :
    Spec (if c then a else b) Q := by
  split
  · exact ha ‹_›
  · exact hb ‹_›

theorem opt {c : Bool} {d : Dec α} {dflt : α} (hd : c = true → Spec d Q) (h : c = false → Q dflt) :
    Spec (optDec c d dflt) Q :=
  ite hd fun hc => ret (h (by simpa using hc))

theorem map {d : Dec α} {g : α → β} {Q : β → Prop} (hd : Spec d fun a => Q (g a)) : Spec (d >>= fun a => pure (g a)) Q :=
  bind hd fun _ h => ret h

end Spec

def Ext {α : Type} (d d' : Dec α) : Prop := ∀ s, d s ≠ .fail .depth → d' s = d s

/-- the continuations need only agree on the results the first decoder can return -/
theorem Ext.bind {α β : Type} {d d' : Dec α} {f f' : α → Dec β} {R : α → Prop} (hs : Spec d R) (hd : Ext d d')
    (hf : ∀ a, R a → Ext (f a) (f' a)) : Ext (d >>= f) (d' >>= f') := by
  intro s h
  simp only [Dec.bind_apply] at h ⊢
  -- `d` does not run out of depth either, so `d'` agrees with it
  rw [hd s fun hc => h (by rw [hc])]
  cases hds : d s with
  | ok a s1 => rw [hds] at h; exact hf a (hs.ok hds) s1 h
  | fail e => rfl

theorem Ext.trans {α : Type} {a b c : Dec α} (h1 : Ext a b) (h2 : Ext b c) : Ext a c := fun s h => by
  rw [h2 s (by rw [h1 s h]; exact h), h1 s h]

structure Good {α : Type} (d d' : Dec α) (Q : α → Prop) : Prop where
  spec : Spec d Q
  ext : Ext d d'

namespace Good
variable {α β : Type} {Q : α → Prop}

theorem refl {d : Dec α} (h : Spec d Q) : Good d d Q := ⟨h, fun _ _ => rfl⟩

theorem bind {d d' : Dec α} {f f' : α → Dec β} {R : α → Prop} {Q : β → Prop} (hd : Good d d' R)
    (hf : ∀ a, R a → Good (f a) (f' a) Q) : Good (d >>= f) (d' >>= f') Q :=
  ⟨.bind hd.spec fun a ha => (hf a ha).spec, .bind hd.spec hd.ext fun a ha => (hf a ha).ext⟩

theorem mono {d d' : Dec α} {R : α → Prop} (hd : Good d d' R) (h : ∀ a, R a → Q a) : Good d d' Q := ⟨hd.spec.mono h, hd.ext⟩

theorem ite {c : Prop} [Decidable c] {a a' b b' : Dec α} (ha : c → Good a a' Q) (hb : ¬ c → Good b b' Q) :
    Good (if c then a else b) (if c then a' else b') Q := by
  split
  · exact ha ‹_›
  · exact hb ‹_›

theorem opt {c : Bool} {d d' : Dec α} {dflt : α} (hd : Good d d' fun _ => True) :
    Good (optDec c d dflt) (optDec c d' dflt) fun _ => True :=
  ite (fun _ => hd) fun _ => refl (.ret trivial)

theorem map {d d' : Dec α} {g : α → β} {Q : β → Prop} (hd : Good d d' fun a => Q (g a)) :
    Good (d >>= fun a => pure (g a)) (d' >>= fun a => pure (g a)) Q :=
  bind hd fun _ h => refl (.ret h)

end Good

theorem safe_pure {α : Type} (a : α) : SafeDec (pure a) := .ret trivial

theorem safe_optDec {α : Type} {c : Bool} {d : Dec α} {dflt : α} (hd : SafeDec d) : SafeDec (optDec c d dflt) :=
  .opt (fun _ => hd) fun _ => trivial

/-! ### the Buffer primitives -/

theorem safe_readN (n : Nat) : SafeDec (readN n) := by
  intro s
  unfold readN
  split
  · trivial
  · exact .inl rfl

theorem safe_readUInt (w : Nat) : SafeDec (readUInt w) := (safe_readN w).map

theorem safe_readBytes : SafeDec readBytes :=
  .bind (safe_readUInt 4) fun _ _ => .ite (fun _ => safe_pure _) fun _ => (safe_readN _).map

theorem safe_readString : SafeDec readString := safe_readBytes.map
theorem safe_readTime : SafeDec readTime := (safe_readUInt 8).map

theorem safe_requestAt (env : Env) (site : Site) (n : Nat) : SafeDec (requestAt env site n) := by
  intro s
  unfold requestAt request
  split
  · trivial
  · split
    · exact .inr (.inr rfl)
    · trivial

theorem safe_checkDimCount (dl : Nat) : SafeDec (checkDimCount dl) := by
  intro s
  unfold checkDimCount
  split
  · exact .inl rfl
  · trivial

theorem good_onBody {α : Type} (body : Bytes) {d d' : Dec α} (h : Good d d' fun _ => True) :
    Good (onBody body d) (onBody body d') fun _ => True := by
  refine ⟨fun s => ?_, fun s hs => ?_⟩
  · unfold onBody
    exact match d ⟨body, s.alloc⟩, h.spec ⟨body, s.alloc⟩ with
      | .ok _ _, _ => trivial
      | .fail _, hf => hf
  · unfold onBody at hs ⊢
    rw [h.ext ⟨body, s.alloc⟩ fun hc => hs (by rw [hc])]

/-! ### lists -/

theorem good_decElems {α : Type} {d d' : Dec α} (h : Good d d' fun _ => True) :
    ∀ n, Good (decElems d n) (decElems d' n) fun vs => vs.length = n
  | 0 => .refl (.ret rfl)
  | n + 1 => .bind h fun _ _ => .bind (good_decElems h n) fun _ hl => .refl (.ret (by simp [hl]))

theorem good_decFields {rec rec' : Ty → Dec Val} (h : ∀ t, Good (rec t) (rec' t) fun _ => True) :
    ∀ ts, Good (decFields rec ts) (decFields rec' ts) fun _ => True
  | [] => .refl (safe_pure _)
  | t :: ts => .bind (h t) fun _ _ => (good_decFields h ts).map

theorem spec_decDims : ∀ n, Spec (decDims n) fun ds => ds.length = n ∧ ∀ d ∈ ds, 1 ≤ d
  | 0 => .ret (by simp)
  | n + 1 => .bind (safe_readUInt 4) fun d _ => .ite (fun _ => .err) fun hd =>
      .bind (spec_decDims n) fun ds h => .ret (by
        have : 1 ≤ d := by unfold toInt32 at hd; split at hd <;> omega
        simpa [h.1, this] using h.2)

theorem spec_decDimList (env : Env) (dl : Nat) :
    Spec (decDimList env dl) fun r => ∃ ds, r = some ds ∧ ds.length = dl ∧ ∀ d ∈ ds, 1 ≤ d :=
  .bind (safe_checkDimCount dl) fun _ _ => .bind (safe_requestAt env _ dl) fun _ _ =>
    .bind (spec_decDims dl) fun ds h => .ret ⟨ds, rfl, h⟩

theorem good_decVarElems (env : Env) {d d' : Dec Val} (h : Good d d' fun _ => True) (n : Int) :
    Good (decVarElems env d n) (decVarElems env d' n) fun vs => 0 ≤ n → vs.length = n.toNat :=
  .ite (fun h => .refl (.ret (by omega))) fun _ => .bind (.refl (safe_requestAt env _ _)) fun _ _ =>
    (good_decElems h _).mono fun _ h _ => h

/-! ### the hand-written codecs without recursion -/

theorem safe_decGuid : SafeDec decGuid :=
  .bind (safe_readUInt 4) fun _ _ => .bind (safe_readUInt 2) fun _ _ => .bind (safe_readUInt 2) fun _ _ =>
    (safe_readN 8).map

theorem safe_decNodeId : SafeDec decNodeId :=
  .bind (safe_readUInt 1) fun _ _ =>
  .ite (fun _ => (safe_readUInt 1).map) fun _ =>
  .ite (fun _ => .bind (safe_readUInt 1) fun _ _ => (safe_readUInt 2).map) fun _ =>
  .ite (fun _ => .bind (safe_readUInt 2) fun _ _ => (safe_readUInt 4).map) fun _ =>
  .ite (fun _ => .bind (safe_readUInt 2) fun _ _ => safe_decGuid.map) fun _ =>
  .ite (fun _ => .bind (safe_readUInt 2) fun _ _ => safe_readBytes.map) fun _ => .err

theorem safe_decExpNodeId : SafeDec decExpNodeId :=
  .bind safe_decNodeId fun _ _ => .bind (safe_optDec safe_readString) fun _ _ =>
    (safe_optDec (safe_readUInt 4)).map

theorem safe_decLocText : SafeDec decLocText :=
  .bind (safe_readUInt 1) fun _ _ => .bind (safe_optDec safe_readString) fun _ _ =>
    (safe_optDec safe_readString).map

theorem safe_decDiagLevel : SafeDec decDiagLevel :=
  .bind (safe_readUInt 1) fun _ _ => .bind (safe_optDec (safe_readUInt 4)) fun _ _ =>
  .bind (safe_optDec (safe_readUInt 4)) fun _ _ => .bind (safe_optDec (safe_readUInt 4)) fun _ _ =>
  .bind (safe_optDec (safe_readUInt 4)) fun _ _ => .bind (safe_optDec safe_readString) fun _ _ =>
  (safe_optDec (safe_readUInt 4)).map

theorem good_decDiag : ∀ fuel, Good (decDiag fuel) (decDiag (fuel + 1)) fun _ => True
  | 0 => ⟨.depth, fun _ h => absurd rfl h⟩
  | fuel + 1 => .bind (.refl safe_decDiagLevel) fun _ _ =>
      .ite (fun _ => (good_decDiag fuel).map) fun _ => .refl (safe_pure _)

theorem safe_decByteSlice : SafeDec decByteSlice :=
  .bind (safe_readUInt 4) fun n _ => .ite (fun _ => safe_pure _) fun _ => .ite (fun _ => .err) fun _ =>
    (safe_readN n).map

/-! ### `split` on an exactly matching dimension list -/

theorem safe_splitLeaf (vals : List Val) (n : Bool) (i j : Nat) (h : i ≤ j ∧ j ≤ vals.length) :
    SafeDec (splitLeaf vals n i j) :=
  .ite (fun hc => by omega) fun _ => safe_pure _

/-- the rows of one level all lie inside `vals` -/
theorem spec_rows {f : Nat → Nat → Dec Val} {p len : Nat} (hf : ∀ a, a + p ≤ len → SafeDec (f a (a + p))) :
    ∀ (k i : Nat), i + k * p ≤ len → Spec (rows f p k i) fun es => es.length = k
  | 0, _, _ => .ret rfl
  | k + 1, i, h => by
    have h' : i + p + k * p ≤ len := by rw [Nat.succ_mul] at h; omega
    exact .bind (hf i (by omega)) fun _ _ => .bind (spec_rows hf k (i + p) h') fun _ he => .ret (by simp [he])

theorem safe_splitM (env : Env) (vals : List Val) (n : Bool) :
    ∀ (ds : List Nat) (i : Nat), ds ≠ [] → (∀ d ∈ ds, 1 ≤ d) → i + ds.prod ≤ vals.length →
      SafeDec (splitM env vals n ds i (i + ds.prod))
  | [], _, h, _, _ => absurd rfl h
  | [d], i, _, _, hlen => by
    simp only [splitM]
    exact safe_splitLeaf vals n i _ ⟨by omega, hlen⟩
  | d :: d' :: ds', i, _, hpos, hlen => by
    have hd : 1 ≤ d := hpos d (List.mem_cons_self ..)
    have hpos' : ∀ x ∈ d' :: ds', 1 ≤ x := fun x hx => hpos x (List.mem_cons_of_mem _ hx)
    have ih := fun a => safe_splitM env vals n (d' :: ds') a (by simp) hpos'
    rw [List.prod_cons] at hlen ⊢
    rw [splitM_exact env vals n d d' ds' i _ hd (prod_pos hpos') hlen]
    exact .bind (safe_requestAt env _ _) fun _ _ => .bind (spec_rows ih d i hlen) fun es hes =>
      .ite (fun he => by rw [List.isEmpty_iff.mp he] at hes; exact absurd hes (by simp; omega)) fun _ => safe_pure _

/-! ### the composite decoders -/

theorem good_decVarValue {rec rec' : Ty → Dec Val} (h : ∀ t, Good (rec t) (rec' t) fun _ => True) (tid : Nat) :
    Good (decVarValue rec tid) (decVarValue rec' tid) fun _ => True := by
  unfold decVarValue
  refine .ite (fun _ => .refl safe_readBytes.map) fun _ => ?_
  split
  · exact h _
  · exact .refl (safe_pure _)

theorem good_decDataValue {d d' : Dec Val} (h : Good d d' fun _ => True) :
    Good (decDataValue d) (decDataValue d') fun _ => True :=
  .bind (.refl (safe_readUInt 1)) fun _ _ => .bind (.opt h) fun _ _ => .refl <|
  .bind (safe_optDec (safe_readUInt 4)) fun _ _ => .bind (safe_optDec safe_readTime) fun _ _ =>
  .bind (safe_optDec (safe_readUInt 2)) fun _ _ => .bind (safe_optDec safe_readTime) fun _ _ =>
  (safe_optDec (safe_readUInt 2)).map

theorem good_decExtObj (env : Env) {rec rec' : Ty → Dec Val} (h : ∀ t, Good (rec t) (rec' t) fun _ => True) :
    Good (decExtObj env rec) (decExtObj env rec') fun _ => True := by
  unfold decExtObj
  refine .bind (.refl safe_decExpNodeId) fun tid _ => .bind (.refl (safe_readUInt 1)) fun mask _ => ?_
  refine .ite (fun _ => .refl (safe_pure _)) fun _ => .bind (.refl (safe_readUInt 4)) fun len _ => ?_
  refine .ite (fun _ => .refl (safe_pure _)) fun _ => .bind (.refl (safe_readN _)) fun body _ => ?_
  refine .ite (fun _ => (good_onBody _ (h _)).map) fun _ => ?_
  split
  · exact .refl (safe_pure _)
  · exact (good_onBody _ (h _)).map

theorem good_decSlice (env : Env) {d d' : Dec Val} (h : Good d d' fun _ => True) :
    Good (decSlice env d) (decSlice env d') fun _ => True :=
  .bind (.refl (safe_readUInt 4)) fun n _ => .ite (fun _ => .refl (safe_pure _)) fun _ => .ite (fun _ => .refl .err) fun _ =>
    .bind (.refl (safe_requestAt env _ n)) fun _ _ => ((good_decElems h n).mono fun _ _ => trivial).map

/-- `split` only runs on a dimension list whose exact product is the number of elements -/
theorem good_decVariant (env : Env) {rec rec' : Ty → Dec Val} (h : ∀ t, Good (rec t) (rec' t) fun _ => True) :
    Good (decVariant env rec) (decVariant env rec') fun _ => True := by
  unfold decVariant
  refine .bind (.refl (safe_readUInt 1)) fun mask _ => .ite (fun _ => .refl (safe_pure _)) fun _ =>
    .ite (fun _ => .refl .err) fun _ => .ite (fun _ => (good_decVarValue h _).map) fun _ => ?_
  refine .bind (.refl (safe_readUInt 4)) fun alen _ => .ite (fun _ => .refl .err) fun _ => .ite (fun _ => .refl .err) fun _ => ?_
  -- what follows the elements does not call `rec`
  refine .bind (good_decVarElems env (good_decVarValue h _) _) fun vals hvals => .refl ?_
  -- a dimension count other than 0 was read, so the dimension bit is set
  refine .bind (.opt (Q := fun dl => dl ≠ 0 → has mask 0x40 = true) (fun hc => (safe_readUInt 4).mono fun _ _ _ => hc)
    fun _ h => absurd rfl h) fun dl hdl => .ite (fun _ => .err) fun _ => ?_
  refine .bind (.opt (Q := fun dims => has mask 0x40 = true → ∃ ds, dims = some ds ∧ ds.length = dl ∧ ∀ d ∈ ds, 1 ≤ d)
    (fun _ => (spec_decDimList env dl).mono fun _ h _ => h) fun h h' => by simp [h] at h') fun dims hdims => ?_
  refine .ite (fun _ => .err) fun hmm => .ite (fun _ => safe_pure _) fun hd2 => .map (Q := fun _ => True) ?_
  -- `dl ≥ 2`: the dimension list was read and matches the number of elements exactly
  obtain ⟨ds, rfl, hlen, hge⟩ := hdims (hdl (by omega))
  have hnm := dimsMismatch_eq_false.mp (Bool.eq_false_iff.mpr fun hc => hmm ⟨by omega, hc⟩)
  have hPL : ds.prod = vals.length := by rw [hvals hnm.1]; exact hnm.2
  have := safe_splitM env vals (decide (toInt32 alen = -1)) ds 0 (by intro he; simp [he] at hlen; omega) hge (by omega)
  simpa [hPL] using this

/-- one more unit of depth: the decoder is safe, and the deeper one agrees with it wherever it does not run out of
    depth; `decode_safe` and `decode_mono` are the two halves -/
theorem decode_good (env : Env) : ∀ (fuel : Nat) (t : Ty), Good (decode env fuel t) (decode env (fuel + 1) t) fun _ => True
  | 0, _ => ⟨.depth, fun _ h => absurd rfl h⟩
  | n + 1, t => by
    have ih := decode_good env n
    cases t with
    | bool => exact .refl (safe_readUInt 1).map
    | int w => exact .refl (safe_readUInt w).map
    | f32 => exact .refl (safe_readUInt 4).map
    | f64 => exact .refl (safe_readUInt 8).map
    | string => exact .refl safe_readString.map
    | time => exact .refl safe_readTime.map
    | bytes => exact .refl safe_decByteSlice
    | slice e => exact good_decSlice env (ih e)
    | ptr e => exact (ih e).map
    | struct fs => exact (good_decFields ih fs).map
    | guid => exact .refl safe_decGuid.map
    | nodeId => exact .refl safe_decNodeId.map
    | expNodeId => exact .refl safe_decExpNodeId.map
    | locText => exact .refl safe_decLocText.map
    | diag => exact (good_decDiag (n + 1)).map
    | dataValue => exact good_decDataValue (ih .variant)
    | variant => exact good_decVariant env ih
    | extObj => exact good_decExtObj env ih

theorem decode_safe (env : Env) (fuel : Nat) (t : Ty) : SafeDec (decode env fuel t) := (decode_good env fuel t).spec

theorem decode_mono (env : Env) (fuel k : Nat) (t : Ty) : Ext (decode env fuel t) (decode env (fuel + k) t) := by
  induction k with
  | zero => exact fun _ _ => rfl
  | succ k ih => exact ih.trans (decode_good env (fuel + k) t).ext

end Opcua.Codec
