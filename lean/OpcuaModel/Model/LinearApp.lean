import OpcuaModel.Model.Linear
/-
  C34, part 3: the embedding application touches nodes OUTSIDE the dispatcher.

  `Node.SetAttribute(Value, dv)` called by the application is one store of the
  word `n.val` (no access check, no lock); `node.Value()` and the background
  `go ChangeNotification` (which calls `ns.Attribute`) are loads of that word.
  `Node.SetAttribute(other attribute, dv)` is a write of the Go map `n.attr`.

  `XOp` adds these application steps to the client requests; `stepX` gives
  each an atomic meaning.  The client handlers themselves are NOT atomic with
  respect to application steps: a handler first runs the access check (loads of
  `n.attr[17]`, `n.attr[18]`) and later loads / stores `n.val`; application
  steps can fall in between.  `chk` / `act` split the handler at that point.

  Results (Props/C34.lean): application steps that only touch the value word
  commute with the check, so the split handler equals the atomic handler run at
  the moment of its value access (`C34_value_steps_commute`) — all such histories
  are linearizable, the linearization point of every operation being its single
  access to `n.val`.  An application write of AccessLevel / UserAccessLevel in
  between does not commute, and a concrete three-operation history that the
  split handler produces has no linearization (`linB … = false`).
-/
namespace Opcua.Linear
open Opcua.Access

/-- requests of clients and steps of the embedding application -/
inductive XOp where
  | client (op : Op)
  /-- `node.SetAttribute(ua.AttributeIDValue, dv)` by the application: one store, no check -/
  | appSetValue (i k : Nat) (d : DV)
  /-- `node.Value()` / `go ChangeNotification` → `ns.Attribute(id, Value)`: a load (the access check of
      the notification path only decides what is reported, it stores nothing) -/
  | appGetValue (i k : Nat)
  /-- `node.SetAttribute(attr, dv)` for another attribute: a write of the map `n.attr` -/
  | appSetAttr (i k a : Nat) (d : DV)
  deriving Repr, DecidableEq

def updNode (sv : Server) (i k : Nat) (f : Node → Node) : Server :=
  match sv i with
  | none => sv
  | some s => match s k with
    | none => sv
    | some n => sv.set i (s.set k (f n))

/-- atomic meaning of every step -/
def stepX (sv : Server) : XOp → Res × Server
  | .client op => step sv op
  | .appSetValue i k d => (.status .ok, updNode sv i k (fun n => { n with val := d }))
  | .appGetValue i k =>
    (match sv.node i k with
     | some n => (match n.val with | .nilPtr => .status .badAttributeIDInvalid | d => .value d)
     | none => .status .badNodeIDUnknown, sv)
  | .appSetAttr i k a d => (.status .ok, updNode sv i k (fun n => { n with attrs := setAttr n.attrs a d }))

/-- the application step touches nothing but the value word -/
def XOp.valueOnly : XOp → Bool
  | .appSetValue _ _ _ => true
  | .appGetValue _ _ => true
  | _ => false

def runX (sv : Server) : List XOp → Server
  | [] => sv
  | x :: r => runX (stepX sv x).2 r

/-- first half of a client handler: look the node up and run the access check -/
def chk (sv : Server) : Op → Option Acc
  | .read i k _ => (sv.node i k).map (access · fRead)
  | .write i k _ _ => (sv.node i k).map (access · fWrite)

/-- `NodeNameSpace.Attribute` after the check, with the decision taken earlier -/
def nsAttributeWith (acc : Acc) (n : Node) (attr : Nat) : Res × Node :=
  match acc with
  | .panic => (.panic, n)
  | .deny => (.status .badUserAccessDenied, n)
  | .allow =>
    if attr = aNodeID then (.value (.v tyNodeID 0), n)
    else if attr = aEventNotifier then (.value (.v tyByte 0), n)
    else if attr = aNodeClass then
      match n.get aNodeClass with
      | .nilPtr => (.status .badAttributeIDInvalid, n)
      | .noVariant => (.panic, n)
      | .v ty p =>
        if ty = tyUInt32 then
          (.value (.v tyInt32 p), { n with attrs := setAttr n.attrs aNodeClass (.v tyInt32 p) })
        else (.value (.v ty p), n)
    else if attr = aValue then
      match n.val with
      | .nilPtr => (.status .badAttributeIDInvalid, n)
      | d => (.value d, n)
    else
      match n.get attr with
      | .nilPtr => (.status .badAttributeIDInvalid, n)
      | d => (.value d, n)

def nsSetAttributeWith (acc : Acc) (n : Node) (attr : Nat) (d : DV) : Res × Node :=
  match acc with
  | .panic => (.panic, n)
  | .deny => (.status .badUserAccessDenied, n)
  | .allow => (.status .ok, nodeSet n attr d)

theorem nsAttributeWith_eq (n : Node) (attr : Nat) : nsAttributeWith (access n fRead) n attr = nsAttribute n attr := by
  unfold nsAttributeWith nsAttribute; rfl

theorem nsSetAttributeWith_eq (n : Node) (attr : Nat) (d : DV) :
    nsSetAttributeWith (access n fWrite) n attr d = nsSetAttribute n attr d := by
  unfold nsSetAttributeWith nsSetAttribute; rfl

/-- second half of a client handler, run on the state as it is THEN, with the decision `dec`
    the first half took (none: the node lookup failed — the handler answered already) -/
def act (sv : Server) (op : Op) (dec : Option Acc) : Res × Server :=
  match dec with
  | none => step sv op
  | some acc =>
    match op with
    | .read i k a =>
      match sv i with
      | none => (.status .bad, sv)
      | some s => match s k with
        | none => (.status .badNodeIDUnknown, sv)
        | some n => let (r, n') := nsAttributeWith acc n a; (r, sv.set i (s.set k n'))
    | .write i k a d =>
      match sv i with
      | none => (.status .badNodeIDUnknown, sv)
      | some s => match s k with
        | none => (.status .badNodeIDUnknown, sv)
        | some n => let (r, n') := nsSetAttributeWith acc n a d; (r, sv.set i (s.set k n'))

/-- without anything in between the two halves are the atomic handler -/
theorem act_chk (sv : Server) (op : Op) : act sv op (chk sv op) = step sv op := by
  cases op with
  | read i k a =>
    cases hn : sv.node i k with
    | none => simp [chk, hn, act]      -- no decision: `act` is the atomic handler by definition
    | some n =>
      obtain ⟨s, hs, hk⟩ := node_eq_some hn
      simp [act, chk, step, hn, hs, hk, nsAttributeWith_eq]
  | write i k a d =>
    cases hn : sv.node i k with
    | none => simp [chk, hn, act]
    | some n =>
      obtain ⟨s, hs, hk⟩ := node_eq_some hn
      simp [act, chk, step, hn, hs, hk, nsSetAttributeWith_eq]

theorem updNode_some (sv : Server) (i k : Nat) (f : Node → Node) (s : Store) (n : Node)
    (hs : sv i = some s) (hk : s k = some n) : updNode sv i k f = sv.set i (s.set k (f n)) := by
  simp [updNode, hs, hk]

theorem updNode_none (sv : Server) (i k : Nat) (f : Node → Node) (h : sv.node i k = none) :
    updNode sv i k f = sv := by
  cases hs : sv i with
  | none => simp [updNode, hs]
  | some s =>
    cases hk : s k with
    | none => simp [updNode, hs, hk]
    | some n => simp [Server.node, hs, hk] at h

theorem node_updNode (sv : Server) (i k : Nat) (f : Node → Node) (i' k' : Nat) :
    (updNode sv i k f).node i' k' = (sv.node i' k').map fun n => if i = i' ∧ k = k' then f n else n :=
  node_replace sv i k f i' k'

/-- an update of one node changes the register of that node, by what it does to the value word -/
theorem abs_updNode (sv : Server) (i k : Nat) (f : Node → Node) (g : DV → DV) (hf : ∀ n, (f n).val = g n.val) :
    abs (updNode sv i k f) = fun key => if key = (i, k) then (abs sv key).map g else abs sv key := by
  funext ⟨i', k'⟩
  simp only [abs, node_updNode, Option.map_map, Prod.mk.injEq]
  by_cases h : i = i' ∧ k = k'
  · obtain ⟨rfl, rfl⟩ := h
    simp [Function.comp_def, hf]
  · have h' : ¬ (i' = i ∧ k' = k) := fun e => h ⟨e.1.symm, e.2.symm⟩
    simp [Function.comp_def, h, h']

/-- the access check reads the attribute map only: an update that keeps it keeps the outcome of every check -/
theorem chk_updNode (sv : Server) (i k : Nat) (f : Node → Node) (hf : ∀ n, (f n).attrs = n.attrs) (op : Op) :
    chk (updNode sv i k f) op = chk sv op := by
  have key : ∀ i' k' fl, ((updNode sv i k f).node i' k').map (access · fl) = (sv.node i' k').map (access · fl) := by
    intro i' k' fl
    rw [node_updNode, Option.map_map]
    congr 1
    funext n
    simp only [Function.comp_def]
    split
    · simp [access, Node.get, hf]
    · rfl
  cases op with
  | read i' k' a => exact key i' k' fRead
  | write i' k' a d => exact key i' k' fWrite

/-- a step that touches only the value word leaves the outcome of every access check as it was -/
theorem chk_valueOnly (sv : Server) (x : XOp) (hx : x.valueOnly = true) (op : Op) :
    chk (stepX sv x).2 op = chk sv op := by
  cases x with
  | client o => cases hx
  | appSetAttr i k a d => cases hx
  | appGetValue i k => rfl
  | appSetValue i k d => exact chk_updNode sv i k (fun n => { n with val := d }) (fun _ => rfl) op

theorem chk_runX_valueOnly (xs : List XOp) (sv : Server) (h : ∀ x ∈ xs, x.valueOnly = true) (op : Op) :
    chk (runX sv xs) op = chk sv op := by
  induction xs generalizing sv with
  | nil => rfl
  | cons x r ih =>
    simp only [runX]
    rw [ih (stepX sv x).2 (fun y hy => h y (by simp [hy])), chk_valueOnly sv x (h x (by simp)) op]

/-! ### a brute-force linearizability test (tiny histories) -/

/-- a completed operation of a history: what was done, what came back, when -/
structure HEv where
  op : XOp
  res : Res
  inv : Nat
  resp : Nat
  deriving Repr, DecidableEq

def insertions (x : α) : List α → List (List α)
  | [] => [[x]]
  | y :: r => (x :: y :: r) :: (insertions x r).map (y :: ·)

def perms : List α → List (List α)
  | [] => [[]]
  | x :: r => (perms r).flatMap (insertions x)

/-- no operation is placed before one that had responded before it was invoked -/
def respectsTime : List HEv → Bool
  | [] => true
  | e :: r => r.all (fun later => !(later.resp < e.inv)) && respectsTime r

def legalSeq (sv : Server) : List HEv → Bool
  | [] => true
  | e :: r => let (x, sv') := stepX sv e.op; x == e.res && legalSeq sv' r

/-- does the history have a linearization w.r.t. the atomic meaning `stepX`? -/
def linB (sv : Server) (h : List HEv) : Bool := (perms h).any (fun p => respectsTime p && legalSeq sv p)

end Opcua.Linear
