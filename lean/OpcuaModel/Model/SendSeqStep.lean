import OpcuaModel.Model.SendSeq
/-
  `SendSeq.step?` and `settle` in the form the invariant proofs use them: the
  relation `Step` with one rule per label (enabling condition and resulting
  state), a case principle for `settle`, and the shape of the invariants
  (`ThreadInv`: clauses per thread plus a shared part, with its frame rule).
-/
namespace Opcua.SendSeq

inductive Step (s : St) : Label → St → Prop
  | spawn : Step s .spawn { s with n := s.n + 1 }
  | gate (t : Nat) : t < s.n → s.pc t = .start → s.reqLocked = false →
      Step s (.gate t) { s with pc := upd s.pc t .gated }
  | getActive (t : Nat) : s.pc t = .gated → Step s (.getActive t) { s with pc := upd s.pc t (.hasActive s.active) }
  | pendAdd (t i : Nat) : s.pc t = .hasActive i →
      Step s (.pendAdd t) { s with pc := upd s.pc t (.added i), pend := .s t :: s.pend }
  | respGetActive (t : Nat) : t < s.n → s.pc t = .start →
      Step s (.respGetActive t) { s with pc := upd s.pc t (.respActive s.active) }
  | lockReq (t i : Nat) : s.pc t = .added i → s.holder i = none →
      Step s (.lockInst t) { s with pc := upd s.pc t (.locked i true), holder := upd s.holder i (some (.s t)) }
  | lockResp (t i : Nat) : s.pc t = .respActive i → s.holder i = none →
      Step s (.lockInst t) { s with pc := upd s.pc t (.locked i false), holder := upd s.holder i (some (.s t)) }
  | newMsg (t cnt i : Nat) (req : Bool) : s.pc t = .locked i req → cnt ≠ 0 →
      Step s (.newMsg t cnt) { s with seq := upd s.seq i (next (s.seq i)), pc := upd s.pc t (.writing i req 0 cnt) }
  | write (t : Nat) (sq : Int) (i : Nat) (req : Bool) (idx cnt : Nat) : s.pc t = .writing i req idx cnt → idx < cnt →
      (if idx = 0 then s.seq i else next (s.seq i)) = sq →
      Step s (.write t sq) { s with
        seq := upd s.seq i sq
        wire := { inst := i, tok := s.tok i, seq := sq, msg := t, opn := false, idx := idx, cnt := cnt } :: s.wire
        pc := upd s.pc t (.writing i req (idx + 1) cnt)
        mid := if idx + 1 < cnt then some t else none }
  | abort (t i : Nat) (req : Bool) (idx cnt : Nat) : s.pc t = .writing i req idx cnt → idx < cnt →
      Step s (.abort t) { s with pc := upd s.pc t (.writing i req cnt cnt), mid := if s.mid = some t then none else s.mid }
  | unlockInst (t i : Nat) (req : Bool) : (s.pc t = .locked i req ∨ ∃ cnt, s.pc t = .writing i req cnt cnt) →
      Step s (.unlockInst t) { s with holder := upd s.holder i none, pc := upd s.pc t (if req then .unlocked i else .done) }
  | pendDone (t i : Nat) : s.pc t = .unlocked i →
      Step s (.pendDone t) (settle { s with pend := s.pend.erase (.s t), pc := upd s.pc t .done })
  | rLock : s.rpc = .idle → s.sched s.active = true →
      Step s .rLock { s with rpc := .gateLocked, reqLocked := true, old := s.active, renewed := s.active :: s.renewed,
                             sched := upd s.sched s.active false }
  | rWaitBegin : s.rpc = .gateLocked → Step s .rWaitBegin (settle { s with rpc := .waiting })
  | rWaitDone : s.rpc = .waited → Step s .rWaitDone { s with rpc := .wantOld }
  | rLockOld : s.rpc = .wantOld → s.holder s.old = none →
      Step s .rLockOld { s with rpc := .holdOld, holder := upd s.holder s.old (some .r) }
  | rCopy : s.rpc = .holdOld →
      Step s .rCopy { s with rpc := .copied s.nInst, nInst := s.nInst + 1, seq := upd s.seq s.nInst (s.seq s.old),
                             tok := upd s.tok s.nInst 0, holder := upd s.holder s.nInst none }
  | rSendOPN (sq : Int) (j : Nat) : s.rpc = .copied j → next (s.seq j) = sq →
      Step s (.rSendOPN sq) { s with
        rpc := .sent j, seq := upd s.seq j sq
        wire := { inst := j, tok := 0, seq := sq, msg := 0, opn := true, idx := 0, cnt := 1 } :: s.wire }
  | rInstall (tk j : Nat) : s.rpc = .sent j →
      Step s (.rInstall tk) { s with rpc := .installed j, active := j, tok := upd s.tok j tk, sched := upd s.sched j true }
  | rFail (j : Nat) : s.rpc = .sent j → Step s .rFail { s with rpc := .failed j }
  | rUnlockOld (j : Nat) : s.rpc = .installed j ∨ s.rpc = .failed j →
      Step s .rUnlockOld { s with rpc := .releasedOld, holder := upd s.holder s.old none }
  | rUnlock : s.rpc = .releasedOld → Step s .rUnlock { s with rpc := .idle, reqLocked := false }

attribute [local grind intro] Step

theorem Step.of {s s' : St} {l : Label} (h : step? s l = some s') : Step s l s' := by
  cases l <;> simp only [step?] at h
  -- two arms of `step?` share one rule here, whose premise is a disjunction: the disjunct is picked by hand
  case unlockInst t =>
    split at h
    · next hp => exact Option.some.inj h ▸ .unlockInst t _ _ (.inl hp)
    · next hp => split at h
                 · next e => exact Option.some.inj h ▸ .unlockInst t _ _ (.inr ⟨_, e ▸ hp⟩)
                 · cases h
    · cases h
  case rUnlockOld =>
    split at h
    · next hr => exact Option.some.inj h ▸ .rUnlockOld _ (.inl hr)
    · next hr => exact Option.some.inj h ▸ .rUnlockOld _ (.inr hr)
    · cases h
  all_goals grind

theorem settle_cases {P : St → Prop} {s : St} (fire : s.rpc = .waiting → s.pend = [] → P { s with rpc := .waited })
    (stay : (s.rpc = .waiting → s.pend ≠ []) → P s) : P (settle s) := by
  unfold settle
  split
  · next h => exact fire h.1 h.2
  · next h => exact stay fun a b => h ⟨a, b⟩

/-- an invariant made of clauses `T s t p` about each thread `t` standing at `p` and a shared part
    `S s`, neither of which reads `s.pc` -/
structure ThreadInv (T : St → Nat → PC → Prop) (S : St → Prop) (s : St) : Prop where
  thr : ∀ t, T s t (s.pc t)
  sh : S s

/-- thread `t` moves to `p'`: its own clauses are shown for `p'`, those of the others against the
    new shared fields -/
theorem ThreadInv.move {T : St → Nat → PC → Prop} {S : St → Prop} {s s' : St} {t : Nat} {p' : PC}
    (hi : ThreadInv T S s) (hpc : s'.pc = upd s.pc t p') (own : T s' t p')
    (others : ∀ j, j ≠ t → T s j (s.pc j) → T s' j (s.pc j)) (sh : S s') : ThreadInv T S s' := by
  refine ⟨fun j => ?_, sh⟩
  rw [hpc, upd_apply]
  split
  · next e => exact e ▸ own
  · next e => exact others j e (hi.thr j)

end Opcua.SendSeq
