import OpcuaModel.Model.SrvSec
/-
  `enableSecurity` as set insertion (membership, no duplicates, the fold of `enabledOf`) and the closed form
  of `serverOpn` (`serverOpn_eq`), for Props/C30.
-/
namespace Opcua.SrvSec

theorem enableSecurity_eq (e : List Sec) (p : String) (m : Nat) :
    enableSecurity e p m = if supported p = true ∧ (⟨p, m⟩ : Sec) ∉ e then e ++ [⟨p, m⟩] else e := by
  have hany : (e.any fun s => s.policy == p && s.mode == m) = true ↔ (⟨p, m⟩ : Sec) ∈ e := by
    rw [List.any_eq_true]
    constructor
    · rintro ⟨⟨p', m'⟩, hx, h⟩
      simp only [Bool.and_eq_true, beq_iff_eq] at h
      rw [← h.1, ← h.2]
      exact hx
    · intro h
      exact ⟨_, h, by simp⟩
  unfold enableSecurity
  by_cases hs : supported p = true <;> simp [hs, hany]

theorem enableSecurity_mem (e : List Sec) (p : String) (m : Nat) (s : Sec) :
    s ∈ enableSecurity e p m ↔ s ∈ e ∨ (supported p = true ∧ s = ⟨p, m⟩) := by
  rw [enableSecurity_eq]
  split
  · next h => simp [h.1]
  · next h =>
    constructor
    · exact Or.inl
    · rintro (h' | ⟨hs, rfl⟩)
      · exact h'
      · exact Classical.not_not.mp fun hn => h ⟨hs, hn⟩

theorem enableSecurity_nodup (e : List Sec) (p : String) (m : Nat) (h : e.Nodup) :
    (enableSecurity e p m).Nodup := by
  rw [enableSecurity_eq]
  split
  · next hn =>
    refine List.nodup_append.mpr ⟨h, by simp, ?_⟩
    intro a ha b hb
    rw [List.mem_singleton] at hb
    rintro rfl
    exact hn.2 (hb ▸ ha)
  · exact h

theorem foldl_enable (calls : List (String × Nat)) (acc : List Sec) (h : acc.Nodup) :
    (calls.foldl (fun acc c => enableSecurity acc c.1 c.2) acc).Nodup ∧
    ∀ s, s ∈ calls.foldl (fun acc c => enableSecurity acc c.1 c.2) acc ↔
      s ∈ acc ∨ ∃ c ∈ calls, supported c.1 = true ∧ s = ⟨c.1, c.2⟩ := by
  induction calls generalizing acc with
  | nil => exact ⟨h, by simp⟩
  | cons c cs ih =>
    obtain ⟨hn, hm⟩ := ih _ (enableSecurity_nodup acc c.1 c.2 h)
    refine ⟨hn, fun s => ?_⟩
    simp only [List.foldl_cons, hm, enableSecurity_mem, List.mem_cons, exists_eq_or_imp, or_assoc]

theorem serverOpn_eq (srv : SrvCfg) (o : Opn) :
    serverOpn srv o = if acceptable srv o = true then .accept ⟨o.policy, o.mode⟩ else .reject := by
  have hN : supported policyNone = true := by decide
  obtain ⟨p, cert, body, v, a, m⟩ := o
  by_cases hp : p = policyNone
  · subst hp
    -- `readChunkOpn`, policy None: the fresh channel is in mode None, so a plain body passes and no other
    cases body
    case plain =>
      -- `handleOpen`: protocol version, token, and (no certificate on the channel) the requested mode
      by_cases hv : v = 0 <;> by_cases ha : a = 0 <;> by_cases hm : m = modeNone <;>
        simp [serverOpn, readChunkOpn, handleOpen, acceptable, freshChan, certUsable, hN, hv, ha, hm]
    all_goals simp [serverOpn, readChunkOpn, acceptable, freshChan, hN]
  · -- `readChunkOpn`, a secure policy: the sender certificate must be the good one, …
    cases cert
    case good =>
      -- … the policy supported …
      cases hs : supported p
      case false => simp [serverOpn, readChunkOpn, acceptable, certUsable, hp, hs]
      -- … and the body secured
      cases body
      case secured =>
        -- `handleOpen`: protocol version and token; the certificate it asks for is on the channel
        by_cases hv : v = 0 <;> by_cases ha : a = 0 <;>
          simp [serverOpn, readChunkOpn, handleOpen, acceptable, freshChan, certUsable, hp, hs, hv, ha]
      all_goals simp [serverOpn, readChunkOpn, acceptable, certUsable, hp, hs]
    all_goals simp [serverOpn, readChunkOpn, acceptable, certUsable, hp]

end Opcua.SrvSec
