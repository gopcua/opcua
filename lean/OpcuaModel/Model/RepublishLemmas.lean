import OpcuaModel.Model.Republish
/-
  The republish loop against a server that answers from its queue: it delivers exactly a run
  `n, …, n + k - 1` of held numbers (`loop_walk`) and ends once the fuel exceeds the number of held
  sequence numbers from `n` on (`loop_terminates`).
-/
namespace Opcua.Rep

theorem loop_honest_miss {q : List Nat} {n : Nat} (hn : n ∉ q) (avail : List Nat) (fuel : Nat)
    (del req : List Nat) :
    loop avail (honest q) (fuel + 1) n del req = ⟨del, req ++ [n], n, .done⟩ := by
  simp [loop, honest, hn]

theorem loop_honest_hit {q : List Nat} {n : Nat} (hn : n ∈ q) (avail : List Nat) (fuel : Nat)
    (del req : List Nat) :
    loop avail (honest q) (fuel + 1) n del req =
      if avail ≠ [] ∧ n + 1 ∉ avail then ⟨del ++ [n], req ++ [n], n + 1, .done⟩
      else loop avail (honest q) fuel (n + 1) (del ++ [n]) (req ++ [n]) := by
  simp [loop, honest, hn]

/-- what the loop does against a server that answers from its queue `q`: it walks up from `n` and
    delivers the run `n, …, n + k - 1`, every number of it held by the server; it returns at the
    first number the server does not hold, or earlier when the transfer result does not list the
    next number -/
def Walk (q avail : List Nat) (n : Nat) (del : List Nat) (r : Result) : Prop :=
  ∃ k, r.delivered = del ++ List.range' n k ∧ r.nextSeq = n + k ∧ (∀ t ∈ List.range' n k, t ∈ q) ∧
    (r.outcome = .running ∨ r.outcome = .done ∧ (n + k ∉ q ∨ avail ≠ [] ∧ n + k ∉ avail))

theorem loop_walk (q avail : List Nat) :
    ∀ (fuel n : Nat) (del req : List Nat), Walk q avail n del (loop avail (honest q) fuel n del req)
  | 0, n, del, req => ⟨0, by simp [loop]⟩
  | fuel + 1, n, del, req => by
    by_cases hn : n ∈ q
    · rw [loop_honest_hit hn]
      split
      · rename_i hstop
        exact ⟨1, by simp, rfl, by simpa using hn, Or.inr ⟨rfl, Or.inr hstop⟩⟩
      · obtain ⟨k, h1, h2, h3, h4⟩ := loop_walk q avail fuel (n + 1) (del ++ [n]) (req ++ [n])
        refine ⟨k + 1, by simp [h1, List.range'_succ], by omega, ?_,
          by rwa [show n + (k + 1) = n + 1 + k by omega]⟩
        intro t ht
        rw [List.range'_succ, List.mem_cons] at ht
        rcases ht with rfl | ht
        · exact hn
        · exact h3 t ht
    · rw [loop_honest_miss hn]
      exact ⟨0, by simp, rfl, by simp, Or.inr ⟨rfl, Or.inl hn⟩⟩

theorem republish_sorted (q avail : List Nat) (fuel n : Nat) :
    (republish avail (honest q) fuel n).delivered.Pairwise (· < ·) := by
  obtain ⟨k, hk, _⟩ := loop_walk q avail fuel n [] []
  rw [republish, hk, List.nil_append]
  exact List.pairwise_lt_range'

theorem republish_walk (q avail : List Nat) (ha : avail = [] ∨ ∀ x, x ∈ avail ↔ x ∈ q) (fuel n : Nat) :
    ∃ k, (republish avail (honest q) fuel n).delivered = List.range' n k ∧
      (republish avail (honest q) fuel n).nextSeq = n + k ∧ (∀ t ∈ List.range' n k, t ∈ q) ∧
      ((republish avail (honest q) fuel n).outcome = .done → n + k ∉ q) := by
  obtain ⟨k, h1, h2, h3, h4⟩ := loop_walk q avail fuel n [] []
  refine ⟨k, by simpa [republish] using h1, h2, h3, fun hd => ?_⟩
  rcases h4 with h4 | ⟨_, h4 | ⟨hne, h4⟩⟩
  · rw [republish, h4] at hd; cases hd
  · exact h4
  · rcases ha with ha | ha
    · exact absurd ha hne
    · exact fun h => h4 ((ha _).mpr h)

theorem filter_ge_succ_lt {q : List Nat} {n : Nat} (hn : n ∈ q) :
    (q.filter (fun x => decide (n + 1 ≤ x))).length < (q.filter (fun x => decide (n ≤ x))).length := by
  have : q.filter (fun x => decide (n + 1 ≤ x)) =
      (q.filter (fun x => decide (n ≤ x))).filter (fun x => decide (x ≠ n)) := by
    rw [List.filter_filter]
    congr 1
    funext x
    rw [← Bool.decide_and, decide_eq_decide]
    omega
  rw [this, List.length_filter_lt_length_iff_exists]
  exact ⟨n, by simp [hn], by simp⟩

theorem loop_terminates (q avail : List Nat) :
    ∀ (fuel n : Nat) (del req : List Nat), (q.filter (fun x => decide (n ≤ x))).length < fuel →
      (loop avail (honest q) fuel n del req).outcome = .done
  | 0, _, _, _, h => by omega
  | fuel + 1, n, del, req, h => by
    by_cases hn : n ∈ q
    · rw [loop_honest_hit hn]
      split
      · rfl
      · apply loop_terminates q avail fuel (n + 1)
        have := filter_ge_succ_lt hn
        omega
    · rw [loop_honest_miss hn]

end Opcua.Rep
