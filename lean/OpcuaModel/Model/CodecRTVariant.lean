import OpcuaModel.Model.CodecRT
import OpcuaModel.Model.CodecSplit
/-
  Round-trip lemmas for Variant (all shapes) and ExtensionObject, with the
  recursive coder as a parameter.
-/
namespace Opcua.Codec
open Opcua

section
variable {encT : Ty → Val → Enc} {decT : Ty → Dec Val} {wtT : Ty → Val → Bool} {normT : Ty → Val → Val}

theorem encVarLeaf_leaf {base : Nat} {ty : Ty} {v : Val} (hty : vElemTy base = some ty)
    (h : IsLeafVal v) : encVarLeaf encT base v = encT ty v := by
  unfold encVarLeaf
  split
  · exact h.elim
  · exact h.elim
  · rw [hty]

theorem reads_decDims : ∀ ds : List Nat, (∀ d ∈ ds, 1 ≤ d ∧ d < 2147483648) →
    Reads (decDims ds.length) (ds.flatMap (leBytes 4)) ds := by
  intro ds
  induction ds with
  | nil => intro _; exact Reads.ret _
  | cons d ds ih =>
    intro h
    have hd := h d (List.mem_cons_self ..)
    simp only [List.length_cons, decDims, List.flatMap_cons]
    refine Reads.bind (reads_readUInt 4 d (by omega)) ?_
    have : ¬ toInt32 d < 1 := by rw [toInt32_small hd.2]; omega
    simp only [this, if_false]
    exact (ih fun x hx => h x (List.mem_cons_of_mem _ hx)).map (d :: ·)

theorem reads_decVarElems (env : Env) (hlim : env.limit = none) {elem : Dec Val} {bs : Bytes} {xs : List Val} {alen : Nat}
    (hal : alen < 2147483648) (r : Reads (decElems elem alen) bs xs) :
    Reads (decVarElems env elem (toInt32 alen)) bs xs := by
  unfold decVarElems
  rw [toInt32_small hal]
  have h1 : ¬ ((alen : Int) = -1) := by omega
  simp only [h1, if_false, Int.toNat_natCast]
  exact Reads.bind (reads_requestAt hlim _ alen) r

theorem flatMap_leBytes4_length (ds : List Nat) : (ds.flatMap (leBytes 4)).length = 4 * ds.length := by
  induction ds with
  | nil => rfl
  | cons d ds ih => simp [List.flatMap_cons, ih]; omega

/-- the dimension list behind its mask bit `c`.  `encDimList` also writes the count, which `decVariant` reads in a step
    of its own: hence an equation for the encoder and a `Reads` for the entries, not an `RTv` -/
theorem rt_decDimList (env : Env) (hlim : env.limit = none) (c : Bool) (ds : List Nat) (hd : ds.length < 2147483648)
    (hds : ∀ d ∈ ds, 1 ≤ d ∧ d < 2147483648) :
    optEnc c (encDimList ds.length (if c then some ds else none))
        = .ok (optBytes c (leBytes 4 ds.length) ++ optBytes c (ds.flatMap (leBytes 4))) ∧
      Reads (optDec c (decDimList env ds.length) none) (optBytes c (ds.flatMap (leBytes 4))) (if c then some ds else none) := by
  cases c with
  | false => exact ⟨rfl, Reads.ret _⟩
  | true =>
    refine ⟨?_, fun rest a => ?_⟩
    · simp [optEnc, optBytes, encDimList, toInt32_small hd]
    · have hc : ¬ ds.length > (ds.flatMap (leBytes 4) ++ rest).length / 4 := by
        rw [List.length_append, flatMap_leBytes4_length]; omega
      have r := Reads.bind (f := fun _ => decDims ds.length >>= fun a => pure (some a)) (reads_requestAt hlim .dims ds.length)
        ((reads_decDims ds hds).map some)
      simp only [optDec, optBytes, if_true, decDimList, Dec.bind_apply, checkDimCount, hc, if_false]
      exact r rest a

theorem encVarValue_eq (tid k : Nat) (value : Val) (ht : tid ≠ 0) :
    encVarValue encT tid ⟨tid, k⟩ value = encElems (encVarLeaf encT tid) (leaves value) := by
  unfold encVarValue
  simp only
  rw [if_neg]
  intro h
  exact ht h.2

theorem wtLeaf_bytes {v : Val} (h : wtLeaf wtT 15 v = true) : ∃ b, v = .bytes b ∧ ∀ d, b = some d → wtStr d = true := by
  unfold wtLeaf at h
  rw [if_pos rfl] at h
  split at h
  · exact ⟨none, rfl, nofun⟩
  · exact ⟨some _, rfl, fun _ hd => by cases hd; exact h⟩
  · cases h

variable (hrec : RecOk encT decT wtT normT)
  (hshape : ∀ tid ty v, vElemTy tid = some ty → wtT ty v = true → IsLeafVal v)
include hrec hshape

theorem rt_decVarValue (tid : Nat) (v : Val) (h : wtLeaf wtT tid v = true) :
    leaves v = [v] ∧ RTv (encVarLeaf encT tid v) (decVarValue decT tid) (normLeaf normT tid v) := by
  by_cases h15 : tid = 15
  · subst h15
    obtain ⟨b, rfl, hb⟩ := wtLeaf_bytes h
    have hn : normLeaf normT 15 (.bytes b) = .bytes (normBytes b) := by rcases b with _ | _ | _ <;> rfl
    rw [hn]
    exact ⟨rfl, (rt_readBytes b hb).map Val.bytes⟩
  · simp only [wtLeaf, h15, if_false] at h
    cases hty : vElemTy tid with
    | none => simp [hty] at h
    | some ty =>
      simp only [hty] at h
      have hl := hshape tid ty v hty h
      refine ⟨leaves_of_leaf hl, ?_⟩
      rw [encVarLeaf_leaf hty hl]
      unfold decVarValue normLeaf
      simp only [h15, if_false, hty]
      exact hrec ty v h

/-- a non-nil array Variant with dimension list `ds` (empty without the dimension bit): the value has the shape
    `[alen]` when there are fewer than two dimensions and the shape `ds` otherwise.  The hypotheses are the conjuncts of
    the array branch of `wtVariant`, in the form common to the two cases of `rt_decVariant` (with and without the dimension
    bit); `dims` with `hdims` lets each of them pass the field as it is spelt there (`none` / `some ds`). -/
theorem rt_decVariant_array (env : Env) (hlim : env.limit = none) (mask alen : Nat) (ds : List Nat) (value : Val)
    (hm : mask < 256) (t0 : ¬ mask % 64 = 0) (t25 : ¬ mask % 64 > 25) (harr : has mask 0x80 = true)
    (hal : alen ≤ 65535) (hz : has mask 0x40 = true ∨ ds = []) (hd : ds.length < 2147483648)
    (hds : ∀ d ∈ ds, 1 ≤ d ∧ d < 2147483648) (hpd : ds = [] ∨ ds.prod = alen)
    (hval : wtArr (wtLeaf wtT (mask % 64)) (if ds.length < 2 then [alen] else ds) value = true)
    (dims : Option (List Nat)) (hdims : dims = if has mask 0x40 then some ds else none) :
    RTv (encVariant encT mask alen ds.length dims ⟨mask % 64, max 1 ds.length⟩ value) (decVariant env decT)
      (normVariant normT mask alen ds.length dims ⟨mask % 64, max 1 ds.length⟩ value) := by
  -- The value is rectangular with `alen` leaves, which round-trip one by one (`eb`); `henc` is what the encoder
  -- writes.  Then the decoder line by line: mask, length, elements, dimension count, dimensions, product check;
  -- last the value: the slice as read for fewer than two dimensions, `splitM_shaped` otherwise.
  obtain ⟨hsh, hlw⟩ := wtArr_shaped (fun x hx => (rt_decVarValue hrec hshape (mask % 64) x hx).1) _ value hval
  have hLlen : (leaves value).length = alen := by
    rw [shaped_leaves_length _ _ hsh]
    by_cases hd2 : ds.length < 2
    · simp [hd2]
    · rw [if_neg hd2]
      exact hpd.resolve_left fun he => hd2 (by simp [he])
  obtain ⟨eb, heb, reb⟩ := rt_decElems (leaves value) fun x hx => (rt_decVarValue hrec hshape (mask % 64) x (hlw x hx)).2
  rw [hLlen] at reb
  have rm := reads_readUInt 1 mask (by omega)
  have ra := reads_readUInt 4 alen (by omega)
  have r1 : Reads (optDec (has mask 0x40) (readUInt 4) 0) (optBytes (has mask 0x40) (leBytes 4 ds.length)) ds.length :=
    .opt (reads_readUInt 4 _ (by omega)) (hz.imp_right fun h => by rw [h]; rfl)
  obtain ⟨hdenc, r2⟩ := rt_decDimList env hlim (has mask 0x40) ds hd hds
  have hal31 : alen < 2147483648 := by omega
  have hal32 : toInt32 alen = (alen : Int) := toInt32_small hal31
  have hdl32 : toInt32 ds.length = (ds.length : Int) := toInt32_small hd
  -- with dimensions the list was read
  have hgetD : ds.length > 0 → dims.getD [] = ds := fun h => by
    have : has mask 0x40 = true := hz.resolve_right fun he => by simp [he] at h
    simp [hdims, this]
  subst hdims
  have henc : encVariant encT mask alen ds.length (if has mask 0x40 then some ds else none) ⟨mask % 64, max 1 ds.length⟩ value
      = .ok ([] ++ leBytes 1 mask ++ leBytes 4 alen ++ eb ++ optBytes (has mask 0x40) (leBytes 4 ds.length)
          ++ optBytes (has mask 0x40) (ds.flatMap (leBytes 4))) := by
    simp only [encVariant, t0, if_false, encVarValue_eq _ _ _ t0, heb, Enc.bind_ok, harr, Bool.true_and, hdenc, Enc.pure_eq,
      optBytes, if_true, List.nil_append, List.append_assoc]
  unfold decVariant
  refine .start (.bind rm ?_)
  simp only [t0, t25, harr, not_true_eq_false, if_false, normVariant]
  refine .bind ra ?_
  -- none of the range checks on the two lengths fires, and the array is not nil
  have ⟨hn1, hn2, hnil, hneg⟩ : ¬ toInt32 alen > maxVariantArrayLength ∧ ¬ toInt32 alen < -1 ∧ ¬ toInt32 alen = -1
      ∧ ¬ toInt32 ds.length < 0 := by
    rw [hal32, hdl32]; simp only [maxVariantArrayLength]; omega
  simp only [hn1, hn2, if_false]
  refine .bind (reads_decVarElems env hlim hal31 reb) (.bind r1 ?_)
  simp only [hneg, if_false]
  refine .bind r2 ?_
  have hcheck : ¬ (ds.length > 0 ∧ dimsMismatch ((if has mask 0x40 then some ds else none).getD []) alen = true) := by
    rintro ⟨hpos, hmm⟩
    have hp : ds.prod = alen := hpd.resolve_left fun he => by simp [he] at hpos
    rw [hgetD hpos, dimsMismatch_eq_false.mpr ⟨by omega, by simpa [hal32] using hp⟩] at hmm
    cases hmm
  simp only [hcheck, if_false, hnil, decide_false]
  by_cases hd2 : ds.length < 2
  · simp only [hd2, if_true] at hsh ⊢
    obtain ⟨xs, rfl, _, hx⟩ := hsh
    rw [show max 1 ds.length = 1 by omega, normArr_slice, leaves_slice, leavesL_eq hx]
    exact .ret henc
  · simp only [hd2, if_false] at hsh ⊢
    have hp : ds.prod = alen := hpd.resolve_left fun he => by simp [he] at hd2
    have hsplit := fun s => splitM_shaped env hlim (normLeaf normT (mask % 64)) ds value [] [] s
      (by intro he; simp [he] at hd2) (fun d hd => (hds d hd).1) hsh
    simp only [List.nil_append, List.append_nil, List.length_nil, Nat.zero_add, hp] at hsplit
    rw [hgetD (by omega), show max 1 ds.length = ds.length by omega, List.length_map, hLlen]
    exact .bind (.const hsplit) (.ret (by rw [List.append_nil]; exact henc))

theorem rt_decVariant (env : Env) (hlim : env.limit = none) (mask alen dlen : Nat) (dims : Option (List Nat)) (vt : VTag) (value : Val)
    (h : wtVariant wtT mask alen dlen dims vt value = true) :
    RTv (encVariant encT mask alen dlen dims vt value) (decVariant env decT)
      (normVariant normT mask alen dlen dims vt value) := by
  unfold wtVariant at h
  simp only [Bool.and_eq_true, decide_eq_true_eq] at h
  obtain ⟨hm, h⟩ := h
  have rm := reads_readUInt 1 mask (by omega)
  by_cases t0 : mask % 64 = 0
  · -- Null
    simp only [t0, if_true, Bool.and_eq_true, decide_eq_true_eq] at h
    obtain ⟨⟨rfl, rfl, rfl, rfl⟩, hv⟩ := h
    cases Val.eq_nil_of_isNil hv
    unfold decVariant
    refine .start (.bind rm ?_)
    simp only [t0, if_true, normVariant]
    exact .ret (by simp [encVariant, t0])
  · simp only [t0, if_false] at h
    by_cases t25 : mask % 64 > 25
    · simp [t25] at h
    · simp only [t25, if_false] at h
      cases harr : has mask 0x80 with
      | true =>
        simp only [harr, not_true_eq_false, if_false] at h
        by_cases hnil : alen = 4294967295
        · -- nil array
          simp only [hnil, if_true, Bool.and_eq_true, Bool.not_eq_true', decide_eq_true_eq] at h
          obtain ⟨⟨h40, rfl, rfl, rfl⟩, hv⟩ := h
          split at hv
          case h_2 => cases hv
          subst hnil
          have henc : encVarValue encT (mask % 64) ⟨mask % 64, 1⟩ (.slice true []) = .ok [] := by
            rw [encVarValue_eq _ _ _ t0]
            rfl
          unfold decVariant
          refine .start (.bind rm ?_)
          simp only [t0, t25, harr, not_true_eq_false, if_false]
          refine .bind (reads_readUInt 4 4294967295 (by decide)) ?_
          -- the length is -1: no elements, and without the dimension bit nothing else is read
          simp only [h40, optDec, Bool.false_eq_true, if_false, normVariant, t0, normArr_slice, List.map_nil]
          exact .ret (by simp [encVariant, t0, henc, optBytes, optEnc, harr, h40])
        · simp only [hnil, if_false, Bool.and_eq_true, decide_eq_true_eq] at h
          obtain ⟨hal, h⟩ := h
          cases h40 : has mask 0x40 with
          | false =>
            simp only [h40, Bool.false_eq_true, not_false_eq_true, if_true, Bool.and_eq_true, decide_eq_true_eq] at h
            obtain ⟨⟨rfl, rfl, rfl⟩, harr1⟩ := h
            exact rt_decVariant_array hrec hshape env hlim mask alen [] value hm t0 t25 harr hal (.inr rfl) (by decide)
              (by simp) (.inl rfl) (by simpa using harr1) none (by simp [h40])
          | true =>
            simp only [h40, not_true_eq_false, if_false] at h
            cases dims with
            | none => simp at h
            | some ds =>
              simp only [Bool.and_eq_true, decide_eq_true_eq, List.all_eq_true] at h
              obtain ⟨⟨⟨⟨rfl, hd31, rfl⟩, hds⟩, hprod⟩, hval⟩ := h
              exact rt_decVariant_array hrec hshape env hlim mask alen ds value hm t0 t25 harr hal (.inl h40) hd31 hds
                (by rw [← prodNat_eq]; simpa using hprod) (by split <;> simp_all only [if_true, if_false]) (some ds) (by simp [h40])
      | false =>
        -- scalar
        simp only [harr, Bool.false_eq_true, not_false_eq_true, if_true, Bool.and_eq_true, decide_eq_true_eq] at h
        obtain ⟨⟨rfl, rfl, rfl, rfl⟩, hl⟩ := h
        obtain ⟨hlv, b, hb, rb⟩ := rt_decVarValue hrec hshape (mask % 64) value hl
        have henc : encVarValue encT (mask % 64) ⟨mask % 64, 0⟩ value = .ok b := by
          rw [encVarValue_eq _ _ _ t0, hlv]
          simp only [encElems, hb, Enc.bind_ok, Enc.pure_eq, List.append_nil]
        unfold decVariant
        refine .start (.bind rm ?_)
        simp only [t0, t25, harr, if_false, Bool.false_eq_true, not_false_eq_true, if_true, normVariant, normArr_zero]
        exact .bind rb (.ret (by simp [encVariant, t0, henc, optBytes, optEnc, harr]))

end

theorem reads_onBody {α : Type} {d : Dec α} {body : Bytes} {x : α} (h : Reads d body x) : Reads (onBody body d) [] x :=
  .const fun s => by simp [onBody, h.whole]

theorem bodyOk_ok {e : Enc} (h : bodyOk e = true) : ∃ b, e = .ok b ∧ b ≠ [] ∧ b.length < 4294967295 := by
  cases e with
  | error _ => simp [bodyOk] at h
  | ok b =>
    simp only [bodyOk, Bool.and_eq_true, Bool.not_eq_true', decide_eq_true_eq] at h
    refine ⟨b, rfl, ?_, h.2⟩
    intro hb
    subst hb
    simp at h

theorem reads_body {d : Dec Val} {body : Bytes} {v : Val} (hne : body ≠ []) (hlen : body.length < 4294967295)
    (r : Reads d body v) (g : Val → Val) (z : Dec Val) :
    Reads (readUInt 4 >>= fun len =>
      if len = 0 ∨ len = null32 then z
      else readN len >>= fun body => onBody body d >>= fun v => pure (g v)) (leBytes 4 body.length ++ body) (g v) := by
  refine Reads.bind (reads_readUInt 4 body.length (by omega)) ?_
  have h0 : ¬ (body.length = 0 ∨ body.length = null32) := by
    have : body.length ≠ 0 := fun h => hne (List.eq_nil_of_length_eq_zero h)
    unfold null32
    omega
  simp only [h0, if_false]
  exact Reads.congr (Reads.bind (reads_readN body) ((reads_onBody r).map g)) (by simp) rfl

/-- the only nil pointer in the domain is a nil `*ExtensionObject` -/
theorem wt_nil {env : Env} {fuel : Nat} {t : Ty} (h : wt env fuel t .nil = true) : t = .extObj := by
  cases fuel with
  | zero => cases h
  | succ n => cases t <;> first | rfl | cases h

theorem normExtValue_nil (env : Env) (fuel mask : Nat) : normExtValue env (norm env fuel) mask "" .nil = .nil := by
  have hp : ∀ e', norm env fuel (.ptr e') .nil = .nil := by
    intro e'; cases fuel <;> simp [norm]
  unfold normExtValue
  split
  · rfl
  · split
    · exact hp _
    · split
      · exact hp _
      · rfl

theorem rt_decExtObj (env : Env) (fuel : Nat)
    (hrec : RecOk (encode env fuel) (decode env fuel) (wt env fuel) (norm env fuel))
    (mask : Nat) (typeId : Option ExpNodeId) (vname : String) (value : Val)
    (h : wtExtObj env fuel (wt env fuel) mask typeId vname value = true) :
    RTv (encExtObj env (encode env fuel) mask typeId vname value) (decExtObj env (decode env fuel))
      (.extObj mask (typeId.map normExp) vname (normExtValue env (norm env fuel) mask vname value)) := by
  unfold wtExtObj at h
  simp only [Bool.and_eq_true, decide_eq_true_eq] at h
  obtain ⟨hm, h⟩ := h
  cases typeId with
  | none => simp at h
  | some e =>
    simp only [Bool.and_eq_true] at h
    obtain ⟨he, h⟩ := h
    obtain ⟨tb, htb, rt⟩ := rt_decExpNodeId e he
    -- type id and encoding mask first, in every case
    unfold decExtObj
    refine .start (.bind rt (.bind (reads_readUInt 1 mask (by omega)) ?_))
    simp only [Option.map_some]
    by_cases m0 : mask = 0
    · subst m0
      simp only [if_true, Bool.and_eq_true] at h ⊢
      obtain ⟨hn, hv⟩ := h
      cases Val.eq_nil_of_isNil hv
      cases (show vname = "" by simpa using hn)
      exact .ret (by simp [encExtObj, encTypeId, htb, isPanic])
    · simp only [m0, if_false] at h ⊢
      by_cases hnv : (vname.isEmpty && value.isNil) = true
      · -- no value (unknown type id / no body): a null body
        simp only [Bool.and_eq_true] at hnv
        cases Val.eq_nil_of_isNil hnv.2
        cases (show vname = "" by simpa using hnv.1)
        rw [normExtValue_nil]
        refine .bind (reads_readUInt 4 null32 (by decide)) ?_
        simp only [or_true, if_true]
        exact .ret (by simp [encExtObj, encTypeId, htb, isPanic, m0, Val.isNil])
      have hnv' : ¬ (vname.isEmpty = true ∧ value.isNil = true) := by simpa using hnv
      simp only [hnv', if_false] at h
      by_cases m2 : mask = 2
      · subst m2
        simp only [if_true, Bool.and_eq_true, beq_iff_eq] at h ⊢
        obtain ⟨⟨hn, hw⟩, hbody⟩ := h
        subst hn
        obtain ⟨body, hb, hne, hlen⟩ := bodyOk_ok hbody
        exact .rest (reads_body hne hlen ((hrec xmlElementPtr value hw).reads hb) (Val.extObj 2 (some (normExp e)) xmlName) _)
          (by simp [encExtObj, encTypeId, htb, isPanic, encExtBody, hb, xmlName, Val.isNil])
      · simp only [m2, if_false, Bool.and_eq_true, Bool.not_eq_true'] at h ⊢
        obtain ⟨hxn, h⟩ := h
        cases hl : lookupName env vname with
        | none => simp [hl] at h
        | some i =>
          cases hk : (normExp e).nodeId.bind regKey with
          | none => simp [hl, hk] at h
          | some key =>
            simp only [hl, hk, Bool.and_eq_true, beq_iff_eq] at h
            obtain ⟨⟨⟨hid, rfl⟩, hw⟩, hbody⟩ := h
            obtain ⟨body, hb, hne, hlen⟩ := bodyOk_ok hbody
            have rbody := (hrec (.ptr (entry env i).ty) value hw).reads hb
            have hnn : ¬ value.isNil = true := fun hv => by cases Val.eq_nil_of_isNil hv; cases wt_nil hw
            simp only [Option.bind_some, hid, normExtValue, m0, m2, if_false, hl]
            exact .rest (reads_body hne hlen rbody (Val.extObj mask (some (normExp e)) (entry env i).name) _)
              (by simp [encExtObj, encTypeId, htb, isPanic, m0, encExtBody, hxn, hl, hb, hnn])

/-- a nil `*ExtensionObject`: `encode` writes the two-byte type id 0 and the mask 0 -/
theorem rt_decExtObj_nil (env : Env) (rec : Ty → Dec Val) :
    RTv (.ok (leBytes 2 0 ++ leBytes 1 0)) (decExtObj env rec) emptyExtObj :=
  have rt : Reads decExpNodeId (leBytes 2 0) ⟨some twoByteZero, [], 0⟩ := (rt_decExpNodeId ⟨none, [], 0⟩ (by decide)).reads rfl
  .start (.bind rt (.bind (reads_readUInt 1 0 (by decide)) (.ret rfl)))

end Opcua.Codec
