/-
  Model of the access-level check and of the attribute read / write paths of
  the node namespace of the server (C31).

    server/node.go            Node.Attribute, Node.SetAttribute, Node.Access
    server/namespace_node.go  NodeNameSpace.Attribute, NodeNameSpace.SetAttribute
    server/attribute_service.go  AttributeService.Read / Write (namespace lookup)

  The model mirrors the Go code statement by statement, oddities included:
    * a missing AccessLevel / UserAccessLevel attribute is "no restriction";
    * an attribute whose Variant does not hold a scalar `uint8` denies everything;
    * a DataValue without a Variant makes `Access` dereference nil (panic);
    * the access check is made for EVERY attribute, not only for Value, and the
      write path lets a client write the AccessLevel attributes themselves;
    * reading NodeClass rewrites a stored UInt32 into an Int32 in place.
-/
namespace Opcua.Access

/-- what a `*ua.DataValue` slot can hold, as far as the code inspects it -/
inductive DV where
  /-- nil pointer / no map entry -/
  | nilPtr
  /-- `&ua.DataValue{Value: nil}`: `dv.Value.Value()` dereferences nil -/
  | noVariant
  /-- a Variant of ua.TypeID `ty` (scalar; the harness maps arrays to ty+64,
      a Variant holding nil to ty 0) with a payload number -/
  | v (ty : Nat) (payload : Nat)
  deriving Repr, DecidableEq, Inhabited

/-- `ua.TypeIDByte`: the only dynamic type `.(uint8)` accepts -/
def tyByte : Nat := 3
def tyInt32 : Nat := 6
def tyUInt32 : Nat := 7
def tyNodeID : Nat := 17

-- attribute ids (ua.AttributeID…)
def aNodeID : Nat := 1
def aNodeClass : Nat := 2
def aEventNotifier : Nat := 12
def aValue : Nat := 13
def aAccessLevel : Nat := 17
def aUserAccessLevel : Nat := 18

-- ua.AccessLevelTypeCurrentRead / CurrentWrite
def fRead : Nat := 1
def fWrite : Nat := 2

/-- status codes the two paths produce -/
inductive St where
  | ok | bad | badNodeIDUnknown | badUserAccessDenied | badAttributeIDInvalid
  deriving Repr, DecidableEq

/-- `server.Node`: the attribute map (association list, first match wins; the
    map is never nil after `sanitize`) and the value function (`nilPtr` = no
    function or a function that returns nil) -/
structure Node where
  attrs : List (Nat × DV)
  val : DV
  deriving Repr, DecidableEq

def lookup (l : List (Nat × DV)) (a : Nat) : DV :=
  match l with
  | [] => .nilPtr
  | (k, d) :: r => if k = a then d else lookup r a

def setAttr (l : List (Nat × DV)) (a : Nat) (d : DV) : List (Nat × DV) :=
  match l with
  | [] => [(a, d)]
  | (k, x) :: r => if k = a then (k, d) :: r else (k, x) :: setAttr r a d

theorem lookup_setAttr_same (l : List (Nat × DV)) (a : Nat) (d : DV) :
    lookup (setAttr l a d) a = d := by
  fun_induction setAttr l a d with
  | case1 => simp [lookup]
  | case2 => simp [lookup]
  | case3 _ _ _ hk ih => simp [lookup, hk, ih]

theorem lookup_setAttr_other (l : List (Nat × DV)) (a b : Nat) (d : DV) (h : b ≠ a) :
    lookup (setAttr l a d) b = lookup l b := by
  fun_induction setAttr l a d with
  | case1 => simp [lookup, Ne.symm h]
  | case2 => simp [lookup, Ne.symm h]
  | case3 _ _ _ _ ih => simp [lookup, ih]

/-- `Node.Attribute(id)` for an id other than Value: nil entry = error -/
def Node.get (n : Node) (a : Nat) : DV := lookup n.attrs a

inductive Acc where
  | allow | deny | panic
  deriving Repr, DecidableEq

/-- one of the two blocks of `Node.Access`:
    ```
    access, err := n.Attribute(id)
    if err == nil {
        val, ok := access.Value.Value.Value().(uint8)   // nil Variant: panic
        if !ok { return false }
        if val&uint8(flag) == 0 { return false }
    }
    ``` -/
def accessSlot (d : DV) (flag : Nat) : Acc :=
  match d with
  | .nilPtr => .allow
  | .noVariant => .panic
  | .v ty p => if ty = tyByte then (if p &&& flag = 0 then .deny else .allow) else .deny

/-- `Node.Access(flag)`: UserAccessLevel first, then AccessLevel -/
def access (n : Node) (flag : Nat) : Acc :=
  match accessSlot (n.get aUserAccessLevel) flag with
  | .allow => accessSlot (n.get aAccessLevel) flag
  | r => r

inductive Res where
  | status (s : St)
  | value (d : DV)
  | panic
  deriving Repr, DecidableEq

/-- `NodeNameSpace.Attribute(id, attr)` for a node that exists. Returns the
    answer and the node afterwards (the NodeClass branch mutates it). -/
def nsAttribute (n : Node) (attr : Nat) : Res × Node :=
  match access n fRead with
  | .panic => (.panic, n)
  | .deny => (.status .badUserAccessDenied, n)
  | .allow =>
    if attr = aNodeID then (.value (.v tyNodeID 0), n)
    else if attr = aEventNotifier then (.value (.v tyByte 0), n)
    else if attr = aNodeClass then
      match n.get aNodeClass with
      | .nilPtr => (.status .badAttributeIDInvalid, n)
      | .noVariant => (.panic, n)
      | .v ty p =>
        if ty = tyUInt32 then
          -- a.Value.Value = ua.MustVariant(int32(x)) on the stored DataValue
          (.value (.v tyInt32 p), { n with attrs := setAttr n.attrs aNodeClass (.v tyInt32 p) })
        else (.value (.v ty p), n)
    else if attr = aValue then
      match n.val with
      | .nilPtr => (.status .badAttributeIDInvalid, n)
      | d => (.value d, n)
    else
      match n.get attr with
      | .nilPtr => (.status .badAttributeIDInvalid, n)
      | d => (.value d, n)

/-- `Node.SetAttribute(id, val)` -/
def nodeSet (n : Node) (attr : Nat) (d : DV) : Node :=
  if attr = aValue then { n with val := d } else { n with attrs := setAttr n.attrs attr d }

/-- `NodeNameSpace.SetAttribute(id, attr, val)` for a node that exists -/
def nsSetAttribute (n : Node) (attr : Nat) (d : DV) : Res × Node :=
  match access n fWrite with
  | .panic => (.panic, n)
  | .deny => (.status .badUserAccessDenied, n)
  | .allow => (.status .ok, nodeSet n attr d)

/-- a namespace: node key → node -/
abbrev Store := Nat → Option Node

def Store.set (s : Store) (k : Nat) (n : Node) : Store := fun j => if j = k then some n else s j

/-- the server: namespace index → namespace (`Server.Namespace(id)` fails when
    the index is out of range) -/
abbrev Server := Nat → Option Store

def Server.set (sv : Server) (i : Nat) (s : Store) : Server := fun j => if j = i then some s else sv j

inductive Op where
  | read (ns key attr : Nat)
  | write (ns key attr : Nat) (d : DV)
  deriving Repr, DecidableEq

/-- one entry of a ReadRequest / WriteRequest as the attribute service and the
    namespace process it -/
def step (sv : Server) (op : Op) : Res × Server :=
  match op with
  | .read i k a =>
    match sv i with
    | none => (.status .bad, sv)
    | some s =>
      match s k with
      | none => (.status .badNodeIDUnknown, sv)
      | some n => let (r, n') := nsAttribute n a; (r, sv.set i (s.set k n'))
  | .write i k a d =>
    match sv i with
    | none => (.status .badNodeIDUnknown, sv)
    | some s =>
      match s k with
      | none => (.status .badNodeIDUnknown, sv)
      | some n => let (r, n') := nsSetAttribute n a d; (r, sv.set i (s.set k n'))

/-- a request history, results in order -/
def run (sv : Server) : List Op → List Res × Server
  | [] => ([], sv)
  | op :: r => let (x, sv') := step sv op; let (xs, sv'') := run sv' r; (x :: xs, sv'')

def Server.node (sv : Server) (i k : Nat) : Option Node := (sv i).bind (· k)

/-! ### the specification side -/

/-- an access attribute that is present and does not grant `flag` -/
def slotLacks (d : DV) (flag : Nat) : Bool :=
  match d with
  | .nilPtr => false
  | .noVariant => true
  | .v ty p => !(ty = tyByte ∧ p &&& flag ≠ 0)

/-- "the node's access level or user access level lacks `flag`" -/
def lacks (n : Node) (flag : Nat) : Bool :=
  slotLacks (n.get aUserAccessLevel) flag || slotLacks (n.get aAccessLevel) flag

def Res.isValue : Res → Bool
  | .value _ => true
  | _ => false

def Op.rewritesAccess (i k : Nat) : Op → Bool
  | .write i' k' a _ => i' = i ∧ k' = k ∧ (a = aAccessLevel ∨ a = aUserAccessLevel)
  | _ => false

def Op.readsValue (i k : Nat) : Op → Bool
  | .read i' k' a => i' = i ∧ k' = k ∧ a = aValue
  | _ => false

end Opcua.Access
