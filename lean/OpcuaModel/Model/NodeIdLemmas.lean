import OpcuaModel.Model.NodeIdParse
/-
  Lemmas about the NodeID string form (C04): the namespace wrapper is
  injective and is undone by the parser's SplitN / Atoi steps; each identifier
  rendering is undone by its branch of the parser.  A well-formed NodeID is
  seen through its namespace and identifier (`WF.view`): its text and what the
  parser returns for it depend on those two only.
-/
namespace Opcua.NodeIdText

/-! ### SplitN -/

theorem splitFirst_none {sep : Nat} {s : Text} (h : sep ∉ s) : splitFirst sep s = (s, none) := by
  fun_induction splitFirst sep s <;> simp_all

theorem splitFirst_app {sep : Nat} {a : Text} (b : Text) (h : sep ∉ a) :
    splitFirst sep (a ++ sep :: b) = (a, some b) := by
  induction a with
  | nil => simp [splitFirst]
  | cons c r ih =>
    simp only [List.mem_cons, not_or] at h
    simp [splitFirst, Ne.symm h.1, ih h.2]

theorem splitFirst_of_mem {sep : Nat} : ∀ {s : Text}, sep ∈ s → ∃ a b, splitFirst sep s = (a, some b) := by
  intro s h
  obtain ⟨a, b, rfl, ha⟩ := List.eq_append_cons_of_mem h
  exact ⟨a, b, splitFirst_app b ha⟩

theorem dec_no_semicolon (n : Nat) : 59 ∉ dec n := by
  intro h
  have := dec_isDigit n 59 h
  simp [isDigit] at this

/-! ### the namespace wrapper -/

/-- `l ≠ 110`: a text with a namespace part begins with 'n' (`ns=`), one without begins with its letter -/
theorem withNs_injective {n1 n2 l1 l2 : Nat} {b1 b2 : Text} (h1 : l1 ≠ 110) (h2 : l2 ≠ 110)
    (h : withNs n1 l1 b1 = withNs n2 l2 b2) : n1 = n2 ∧ l1 = l2 ∧ b1 = b2 := by
  unfold withNs at h
  split at h <;> split at h
  · simp only [List.cons.injEq] at h
    exact ⟨by omega, h.1, h.2.2⟩
  · exact absurd (List.cons.inj h).1 h1
  · exact absurd (List.cons.inj h).1.symm h2
  · -- both sides are cut at their first ';'
    have s1 := splitFirst_app (l1 :: 61 :: b1) (dec_no_semicolon n1)
    have s2 := splitFirst_app (l2 :: 61 :: b2) (dec_no_semicolon n2)
    simp only [List.cons_append, List.nil_append, List.cons.injEq, true_and, List.append_assoc] at h
    rw [h, s2] at s1
    simp only [Prod.mk.injEq, Option.some.injEq, List.cons.injEq, true_and] at s1
    exact ⟨(dec_injective s1.1).symm, s1.2.1.symm, s1.2.2.symm⟩

theorem atoiNs_dec (n : Nat) (h : n < 65536) : atoiNs (dec n) = some n := by
  cases hd : dec n with
  | nil => exact absurd hd (dec_ne_nil n)
  | cons c r =>
    have hc : isDigit c = true := dec_isDigit n c (by rw [hd]; exact List.mem_cons_self)
    have : c ≠ 43 ∧ c ≠ 45 := by simp [isDigit] at hc; omega
    simp only [atoiNs, this, if_false]
    rw [← hd, digitsVal_dec]
    simp [Nat.le_of_lt_succ h]

theorem parseNs_dec (n : Nat) (h : n < 65536) (tbl : Option (List Text)) :
    parseNs (110 :: 115 :: 61 :: dec n) tbl = some (n, []) := by
  simp [parseNs, List.isPrefixOf, atoiNs_dec n h]

/-- the namespace part `ns=0` the parser supplies when the text has none -/
theorem parseNs_default (tbl : Option (List Text)) : parseNs [110, 115, 61, 48] tbl = some (0, []) :=
  parseNs_dec 0 (by decide) tbl

theorem parseExpanded_cut (a rest : Text) (tbl : Option (List Text)) (ha : 59 ∉ 110 :: a) :
    parseExpanded (110 :: a ++ 59 :: rest) tbl =
      (parseNs (110 :: a) tbl).bind fun p => parseIdent p.1 p.2 rest := by
  have hpre : [115, 61].isPrefixOf (110 :: a ++ 59 :: rest) = false := by simp [List.isPrefixOf]
  simp only [parseExpanded, hpre, splitFirst_app _ ha]
  cases h : parseNs (110 :: a) tbl <;> simp [h]

theorem parseExpanded_nsIdx (k : Nat) (hk : k < 65536) (rest : Text) (tbl : Option (List Text)) :
    parseExpanded ([110, 115, 61] ++ dec k ++ 59 :: rest) tbl = parseIdent k [] rest := by
  have := parseExpanded_cut ([115, 61] ++ dec k) rest tbl (by simp [dec_no_semicolon])
  simp only [List.cons_append, List.nil_append] at this ⊢
  rw [this, parseNs_dec k hk]
  rfl

/-- the parser undoes the namespace wrapper (needs: no ';' in an unwrapped body,
    unless the body follows the string prefix "s=", which is never split) -/
theorem parseExpanded_withNs {ns l : Nat} {body : Text} (hns : ns < 65536) (hl : l ≠ 59)
    (hbody : ns = 0 → l ≠ 115 → 59 ∉ body) (tbl : Option (List Text)) :
    parseExpanded (withNs ns l body) tbl = parseIdent ns [] (l :: 61 :: body) := by
  unfold withNs
  by_cases z : ns = 0
  · subst z
    by_cases hs : l = 115
    · subst hs
      simp [parseExpanded, List.isPrefixOf, parseNs_default]
    · have hno : (59 : Nat) ∉ l :: 61 :: body := by
        simp only [List.mem_cons, not_or]
        exact ⟨Ne.symm hl, by omega, hbody rfl hs⟩
      simp [parseExpanded, List.isPrefixOf, Ne.symm hs, splitFirst_none hno, parseNs_default]
  · simpa [z] using parseExpanded_nsIdx ns hns (l :: 61 :: body) tbl

/-! ### a NodeID through its namespace and identifier -/

theorem newExpanded_plain (n : NodeID) : newExpanded n [] 0 = ⟨n, [], 0⟩ := by
  simp [newExpanded]

/-- the letter and the body of the string form depend on the identifier only -/
def Ident.letter : Ident → Nat
  | .str _ => 115 | .guid _ => 103 | .opaque _ => 98 | _ => 105
def Ident.body : Ident → Text
  | .num v => dec v | .str s => s | .guid g => guidText g | .opaque b => b64enc b | .invalid => []
/-- the identifiers of well-formed NodeIDs -/
def Ident.Valid : Ident → Prop
  | .num v => v < 4294967296
  | .str _ => True
  | .guid g => g.length = 16 ∧ ∀ b ∈ g, b < 256
  | .opaque b => ∀ x ∈ b, x < 256
  | .invalid => False
/-- the node the parser builds for an identifier: the smallest numeric encoding, no flag bits (`v < 65535`, not
    `< 65536`: the parser tests `id < math.MaxUint16`, ua/expanded_node_id.go:219, so 65535 is a Numeric id) -/
def nodeOf (ns : Nat) : Ident → NodeID
  | .num v => if ns = 0 ∧ v < 256 then newTwoByte v else if ns < 256 ∧ v < 65535 then newFourByte ns v
      else newNumeric ns v
  | .str s => newString ns s
  | .guid g => ⟨4, ns, 0, [], some g⟩
  | .opaque b => newByteString ns b
  | .invalid => newTwoByte 0

/-- a well-formed NodeID through its namespace and identifier: the namespace is a uint16, the identifier
    valid, and the parser's normal form and the text are functions of the two alone -/
structure View (n : NodeID) : Prop where
  ns_lt : n.ns < 65536
  valid : (ident n).Valid
  canon_eq : canon n = nodeOf n.ns (ident n)
  toString_eq : toString n = some (withNs n.ns (ident n).letter (ident n).body)

theorem WF.view {n : NodeID} (h : WF n) : View n := by
  -- the four fields as one conjunction: `simp` alone makes no progress on `n.ns < 65536`
  refine (fun ⟨a, b, c, d⟩ => ⟨a, b, c, d⟩ : _ ∧ _ ∧ _ ∧ _ → View n) ?_
  -- one case per encoding of `WF`: its `typ` selects the same arm in `ident`, `canon`, `toString`, `stringID`;
  -- for the three numeric encodings `omega` gets `canon`'s size tests and the uint16 bound from the ranges of `WF`
  rcases h with ⟨t, z, _⟩ | ⟨t, _, _⟩ | ⟨t, _, _⟩ | ⟨t, _⟩ | ⟨t, _, g, hg, _, _⟩ | ⟨t, _, _⟩ <;>
    simp [ident, canon, toString, stringID, withNs, Ident.letter, Ident.body, Ident.Valid, nodeOf, *] <;> omega

/-- the letter is neither 'n' (110, which opens `ns=` / `nsu=`) nor ';' (59) -/
theorem Ident.letter_ne (i : Ident) : i.letter ≠ 110 ∧ i.letter ≠ 59 := by
  cases i <;> simp [Ident.letter]

theorem Ident.body_no_semicolon (i : Ident) (h : i.letter ≠ 115) : 59 ∉ i.body := by
  cases i
  · exact dec_no_semicolon _
  · exact absurd rfl h
  · exact guidText_no_semicolon _
  · exact b64enc_no_semicolon _
  · exact List.not_mem_nil

theorem Ident.text_injective {i j : Ident} (hi : i.Valid) (hj : j.Valid)
    (hl : i.letter = j.letter) (hb : i.body = j.body) : i = j := by
  -- different kinds have different letters (`hl`), but for `num` and `invalid`, which share 'i' and of which
  -- `Valid` excludes the second; within a kind the body is an injective rendering
  cases i <;> cases j <;> simp only [Ident.letter, Ident.body, Ident.Valid, Nat.reduceEqDiff] at hi hj hl hb ⊢
  · rw [dec_injective hb]
  · rw [hb]
  · rw [guidText_injective hi hj hb]
  · rw [b64enc_injective hi hj hb]

theorem parseIdent_text (ns : Nat) {i : Ident} (hi : i.Valid) :
    parseIdent ns [] (i.letter :: 61 :: i.body) = some ⟨nodeOf ns i, [], 0⟩ := by
  cases i <;> simp only [Ident.letter, Ident.body, Ident.Valid, nodeOf] at hi ⊢
  · simp only [parseIdent, List.isPrefixOf, List.drop, digitsVal_dec, newExpanded_plain, beq_self_eq_true,
      Bool.and_self, if_true]
    split
    · rfl
    · split
      · rfl
      · rw [if_pos (by omega)]
  · simp [parseIdent, List.isPrefixOf, newExpanded_plain]
  · simp [parseIdent, List.isPrefixOf, newExpanded_plain, newGUIDNode, newGUID_guidText _ hi.1 hi.2, stringID,
      NodeID.typ, guidText_ne_nil]
  · simp [parseIdent, List.isPrefixOf, newExpanded_plain, b64dec_b64enc _ hi]

/-- `nodeOf` has the namespace and identifier it was given, is well-formed, and sets no flag bit (`mask < 64`) -/
theorem nodeOf_key {ns : Nat} {i : Ident} (hns : ns < 65536) (hi : i.Valid) :
    (nodeOf ns i).ns = ns ∧ ident (nodeOf ns i) = i ∧ WF (nodeOf ns i) ∧ (nodeOf ns i).mask < 64 := by
  cases i <;> simp only [Ident.Valid, nodeOf] at hi ⊢
  · split
    · simp [ident, newTwoByte, NodeID.typ, WF, *]
    · split <;> simp [ident, newFourByte, newNumeric, NodeID.typ, WF, *] <;> omega
  · simp [ident, newString, NodeID.typ, WF, hns]
  · simp [ident, NodeID.typ, WF, hns, hi.1]; exact hi.2
  · simp [ident, newByteString, NodeID.typ, WF, hns]; exact hi

/-- `mask < 64`: neither the URI flag (0x80) nor the server-index flag (0x40), for which `ParseNodeID` refuses an expanded id -/
theorem parseNodeID_of {s : Text} {m : NodeID} (h : parseExpanded s none = some ⟨m, [], 0⟩) (hm : m.mask < 64) :
    parseNodeID s = some m := by
  have h1 : m.mask / 128 = 0 := by omega
  have h2 : m.mask / 64 = 0 := by omega
  simp [parseNodeID, h, hasURIFlag, hasIndexFlag, h1, h2]

/-! ### namespace URIs -/

/-- namespace index and identifier of a parse result -/
def nodeKey (e : Expanded) : Nat × Ident := (e.node.ns, ident e.node)

theorem setURIFlag_key (n : NodeID) : (setURIFlag n).ns = n.ns ∧ ident (setURIFlag n) = ident n := by
  have ht : (setURIFlag n).typ = n.typ := by
    simp only [setURIFlag, NodeID.typ]; split <;> omega
  exact ⟨rfl, by unfold ident; rw [ht]; rfl⟩

theorem nodeKey_newExpanded (n : NodeID) (u : Text) : nodeKey (newExpanded n u 0) = (n.ns, ident n) := by
  simp only [nodeKey, newExpanded, Nat.lt_irrefl, if_false]
  split
  · rw [(setURIFlag_key n).1, (setURIFlag_key n).2]
  · rfl

/-- the namespace URI only sets the flag bit: index and identifier of the
    result do not depend on it -/
theorem parseIdent_nsu_key (k : Nat) (u rest : Text) :
    (parseIdent k u rest).map nodeKey = (parseIdent k [] rest).map nodeKey := by
  unfold parseIdent
  cases digitsVal (rest.drop 2) <;> cases b64dec (rest.drop 2) <;>
    simp only [apply_ite (Option.map nodeKey), Option.map_some, Option.map_none, nodeKey_newExpanded]

theorem unescNsu_escNsu (u : Text) : unescNsu (escNsu u) = u := by
  fun_induction escNsu u <;> simp_all [unescNsu]

theorem escNsu_no_semicolon (u : Text) : 59 ∉ escNsu u := by
  fun_induction escNsu u <;> simp_all <;> omega

/-- `nsu=<w>;<rest>` with no ';' in `w`: the table is searched for the unescaped `w` -/
theorem parseExpanded_nsu (w rest : Text) (tbl : List Text) (hw : 59 ∉ w) :
    parseExpanded ([110, 115, 117, 61] ++ w ++ 59 :: rest) (some tbl) =
      match tbl.findIdx? (· == unescNsu w) with
      | none => none
      | some k => parseIdent (k % 65536) (unescNsu w) rest := by
  have := parseExpanded_cut ([115, 117, 61] ++ w) rest (some tbl) (by simp [hw])
  simp only [List.cons_append, List.nil_append] at this ⊢
  rw [this]
  simp only [parseNs, List.isPrefixOf, beq_self_eq_true, Bool.and_self, if_true, List.drop_succ_cons, List.drop_zero]
  cases tbl.findIdx? (· == unescNsu w) <;> rfl

end Opcua.NodeIdText
