import OpcuaModel.Model.SecureLen
import OpcuaModel.Gen.MaxBody
/-
  Closed forms of the two length computations, `secureLen` (`signAndEncrypt`)
  and `Gen.setMaximumBodySize`, for a cipher whose plaintext and ciphertext
  blocks have the same size `b`: the first rounds UP to whole blocks, the
  second rounds DOWN, and two multiples of `b` less than `b` apart are in order
  (`multiples_le`); that is why a maximal body fits and one more byte does not.
  `padTo` is the rounding up as the byte models compute it: the padding count on natural numbers.
-/
namespace Opcua
open Opcua

/-- `x` rounded down to a multiple of the block size `b` -/
def blockFloor (b x : Int) : Int := x - x % b
/-- `x` rounded up to a multiple of `b` -/
def blockCeil (b x : Int) : Int := x + if x % b ≠ 0 then b - x % b else 0

theorem blockFloor_emod (b x : Int) : blockFloor b x % b = 0 := by
  have : blockFloor b x = b * (x / b) := by simp only [blockFloor, Int.emod_def]; omega
  rw [this]; exact Int.mul_emod_right _ _

theorem blockCeil_emod (b x : Int) : blockCeil b x % b = 0 := by
  simp only [blockCeil]
  split
  · have : x + (b - x % b) = b * (x / b + 1) := by rw [Int.mul_add, Int.mul_one, Int.emod_def]; omega
    rw [this]; exact Int.mul_emod_right _ _
  · rename_i h0; simpa using h0

theorem blockFloor_bounds {b : Int} (hb : 0 < b) (x : Int) : blockFloor b x ≤ x ∧ x < blockFloor b x + b := by
  have := Int.emod_nonneg x (Int.ne_of_gt hb); have := Int.emod_lt_of_pos x hb
  simp only [blockFloor]; omega

theorem blockCeil_bounds {b : Int} (hb : 0 < b) (x : Int) : x ≤ blockCeil b x ∧ blockCeil b x < x + b := by
  have := Int.emod_nonneg x (Int.ne_of_gt hb); have := Int.emod_lt_of_pos x hb
  simp only [blockCeil]; split <;> omega

/-- on natural numbers: the padding count that fills `x` to a multiple of `b`, as `signAndEncrypt`
    computes it (`Chunk.paddingLength`) -/
def padTo (b x : Nat) : Nat := if x % b ≠ 0 then b - x % b else 0

theorem padTo_lt {b : Nat} (hb : 0 < b) (x : Nat) : padTo b x < b := by
  have := Nat.mod_lt x hb
  simp only [padTo]; split <;> omega

theorem blockCeil_natCast {b : Nat} (hb : 0 < b) (x : Nat) :
    blockCeil (b : Int) (x : Int) = ((x + padTo b x : Nat) : Int) := by
  have := Nat.mod_lt x hb
  simp only [blockCeil, padTo, ← Int.natCast_emod]
  generalize x % b = r at this ⊢
  split <;> split <;> omega

theorem padTo_aligned {b : Nat} (hb : 0 < b) (x : Nat) : (x + padTo b x) % b = 0 := by
  have := blockCeil_emod (b : Int) x
  rw [blockCeil_natCast hb] at this
  exact_mod_cast this

/-- the OPC UA specification writes the count as `(b - r) % b` (`Spec.paddingSize`) -/
theorem padTo_eq_mod {b : Nat} (hb : 0 < b) (x : Nat) : (b - x % b) % b = padTo b x := by
  have := Nat.mod_lt x hb
  simp only [padTo]
  split
  · exact Nat.mod_eq_of_lt (by omega)
  · rename_i h0
    rw [Decidable.not_not.mp h0, Nat.sub_zero, Nat.mod_self]

theorem multiples_le {b x y : Int} (hx : x % b = 0) (hy : y % b = 0) (h : x < y + b) : x ≤ y := by
  refine Int.not_lt.mp fun hlt => ?_
  have e : (x - y) % b = 0 := by rw [Int.sub_emod, hx, hy]; rfl
  rw [Int.emod_eq_of_lt (by omega) (by omega)] at e
  omega

theorem blockFloor_mono {b : Int} (hb : 0 < b) {x y : Int} (h : x ≤ y) : blockFloor b x ≤ blockFloor b y := by
  have := blockFloor_bounds hb x; have := blockFloor_bounds hb y
  exact multiples_le (blockFloor_emod b x) (blockFloor_emod b y) (by omega)

/-- rounding up does not pass a multiple of `b` -/
theorem blockCeil_le {b : Int} (hb : 0 < b) {x y : Int} (hy : y % b = 0) (h : x ≤ y) : blockCeil b x ≤ y := by
  have := blockCeil_bounds hb x
  exact multiples_le (blockCeil_emod b x) hy (by omega)

theorem ceilDiv_of_multiple {b y : Int} (hb : 0 < b) (hy : y % b = 0) : (y + b - 1) / b = y / b := by
  obtain ⟨q, rfl⟩ := Int.dvd_of_emod_eq_zero hy
  rw [Int.mul_ediv_cancel_left _ (Int.ne_of_gt hb), show b * q + b - 1 = (b - 1) + b * q by omega,
    Int.add_mul_ediv_left _ _ (Int.ne_of_gt hb), Int.ediv_eq_zero_of_lt (by omega) (by omega), Int.zero_add]

theorem blockCeil_ediv_le {b : Int} (hb : 0 < b) (x : Int) : blockCeil b x / b ≤ x / b + 1 := by
  have := blockCeil_bounds hb x
  rw [← Int.add_mul_ediv_right x 1 (Int.ne_of_gt hb), Int.one_mul]
  exact Int.ediv_le_ediv hb (by omega)

/-- what a parameter row must satisfy for the closed forms below -/
structure BlockRow (a : AlgoParams) : Prop where
  pos : 0 < a.blockSize
  plain : a.plaintextBlockSize = a.blockSize
  sig : 0 ≤ a.signatureLength
  noExtra : a.remoteSignatureLength ≤ 256

theorem secureLen_none (a : AlgoParams) (n : Int) :
    secureLen a .none (rawLenOfBody n) = ⟨8 + n, 24 + n, 24 + n, true⟩ := by
  simp only [secureLen, rawLenOfBody, symHeaderLength]; congr 1; omega

theorem secureLen_sign (a : AlgoParams) (n : Int) :
    secureLen a .sign (rawLenOfBody n) =
      ⟨8 + n + a.signatureLength, 24 + n + a.signatureLength, 24 + n + a.signatureLength, true⟩ := by
  simp only [secureLen, rawLenOfBody, symHeaderLength]; congr 1 <;> omega

/-- SignAndEncrypt: sequence header, body, signature and the padding-size byte
    are rounded up to whole blocks -/
theorem secureLen_enc {a : AlgoParams} (ha : BlockRow a) {n : Int} (hn : 0 ≤ n) :
    secureLen a .signAndEncrypt (rawLenOfBody n) =
      ⟨blockCeil a.blockSize (n + 9 + a.signatureLength), 16 + blockCeil a.blockSize (n + 9 + a.signatureLength),
       16 + blockCeil a.blockSize (n + 9 + a.signatureLength), true⟩ := by
  obtain ⟨hb, hp, hs, hr⟩ := ha
  have hr' : ¬ (a.remoteSignatureLength > 256) := by omega
  have hc := blockCeil_bounds hb (n + 9 + a.signatureLength)
  have hm := blockCeil_emod a.blockSize (n + 9 + a.signatureLength)
  simp only [secureLen, rawLenOfBody, symHeaderLength, hp, hr', decide_false, Bool.false_eq_true, if_false]
  rw [Int.tmod_eq_emod_of_nonneg (by omega),
    show 24 + n - (12 + 4) + a.signatureLength + 1 = n + 9 + a.signatureLength by omega,
    show 24 + n + ((if (n + 9 + a.signatureLength) % a.blockSize ≠ 0
        then a.blockSize - (n + 9 + a.signatureLength) % a.blockSize else 0) + 1) - (12 + 4) + a.signatureLength
      = blockCeil a.blockSize (n + 9 + a.signatureLength) by simp only [blockCeil]; omega,
    Int.tdiv_eq_ediv_of_nonneg (by omega), Int.tmod_eq_emod_of_nonneg (by omega),
    Int.ediv_mul_cancel (Int.dvd_of_emod_eq_zero hm), hm]
  simp

/-- the body size: the room after the 16 header bytes, rounded down to whole
    blocks, less sequence header, signature and padding-size byte -/
theorem setMaximumBodySize_eq {a : AlgoParams} (ha : BlockRow a) {cs : Int}
    (h : 16 + a.blockSize + 9 + a.signatureLength ≤ cs) (hcs : cs < 4294967296) :
    Gen.setMaximumBodySize a cs = blockFloor a.blockSize (cs - 16) - 9 - a.signatureLength := by
  obtain ⟨hb, hp, hs, hr⟩ := ha
  have hr' : ¬ (a.remoteSignatureLength > 256) := by omega
  have hf := blockFloor_bounds hb (cs - 16)
  have e : a.blockSize * ((cs - 12 - 4) / a.blockSize) = blockFloor a.blockSize (cs - 16) := by
    have : cs - 12 - 4 = cs - 16 := by omega
    simp only [blockFloor, Int.emod_def, this]; omega
  simp only [Gen.setMaximumBodySize, hp, hr', decide_false, Bool.false_eq_true, if_false]
  rw [Int.tdiv_eq_ediv_of_nonneg (by omega), e, Int.emod_emod_of_dvd _ (Int.dvd_refl _), Int.emod_eq_of_lt (by omega) (by omega)]
  omega

theorem setMaximumBodySize_range {a : AlgoParams} (ha : BlockRow a) {cs : Int}
    (h : 16 + a.blockSize + 9 + a.signatureLength < cs) (hcs : cs < 4294967296) :
    0 < Gen.setMaximumBodySize a cs ∧ Gen.setMaximumBodySize a cs < cs := by
  have := ha.sig; have := blockFloor_bounds ha.pos (cs - 16)
  rw [setMaximumBodySize_eq ha (Int.le_of_lt h) hcs]; omega

theorem secureLen_fits {a : AlgoParams} (ha : BlockRow a) (m : Mode) {cs : Int}
    (h : 16 + a.blockSize + 9 + a.signatureLength ≤ cs) (hcs : cs < 4294967296) {n : Int} (hn0 : 0 ≤ n)
    (hn : n ≤ Gen.setMaximumBodySize a cs) : (secureLen a m (rawLenOfBody n)).chunkLen ≤ cs := by
  have := ha.sig; have := blockFloor_bounds ha.pos (cs - 16)
  rw [setMaximumBodySize_eq ha h hcs] at hn
  cases m
  · simp only [secureLen_none]; omega
  · simp only [secureLen_sign]; omega
  · have := blockCeil_le ha.pos (blockFloor_emod a.blockSize (cs - 16))
      (show n + 9 + a.signatureLength ≤ blockFloor a.blockSize (cs - 16) by omega)
    simp only [secureLen_enc ha hn0]; omega

end Opcua
