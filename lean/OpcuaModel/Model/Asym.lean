import OpcuaModel.Base.Bytes
/-
  Model of the asymmetric half of `uapolicy` (property C15; sizes reused by C37).

  * `encrypt` / `decrypt` mirror the block-splitting loops of
    `RSAOAEP.Encrypt/Decrypt` and `PKCS1v15.Encrypt/Decrypt`
    (uapolicy/crypto_rsaoaep.go, crypto_pkcs1v15.go — the two pairs are the
    same code up to the padding constant) over an ABSTRACT per-block RSA
    `BlockRSA`: what Go's `rsa.EncryptOAEP/EncryptPKCS1v15` and their inverses
    guarantee per block (RFC 8017), nothing about the bytes.
  * `AsymRow` is what the generator extracts from each `newXAsymmetric`
    constructor (Gen/Asym.lean), `Spec` the Part 7 / RFC 8017 numbers written
    down by hand from the profile comments at the top of each policy file.
-/
namespace Opcua.Asym
open Opcua

/-- type and hash of the `encrypt:` field of a constructor -/
inductive Scheme where
  | none | pkcs1v15 | oaepSha1 | oaepSha256
  deriving Repr, DecidableEq

/-- `rsa.PublicKey.Size()`: modulus length in bytes -/
def sizeOfBits (bits : Int) : Int := (bits + 7) / 8

inductive SigScheme where
  | none | pkcs1v15Sha1 | pkcs1v15Sha256 | pssSha256
  deriving Repr, DecidableEq

/-- facts of one `newXAsymmetric` constructor, generated from the source -/
structure AsymRow where
  name : String
  scheme : Scheme
  sigScheme : SigScheme
  /-- constant `Encrypt` subtracts from the key size (`maxBlock := Size() - c`) -/
  encPad : Int
  /-- constant in `plainttextBlockSize: remoteKeySize - c` -/
  ptPad : Int
  minKeyBytes : Int
  maxKeyBytes : Int
  nonceLength : Int
  /-- translation of the constructor's guards: the constructor returns an
      algorithm (not an error) for keys whose moduli have these bit lengths
      (`N.BitLen()`; `Size()` is `sizeOfBits` of it) -/
  accept : (hasLocal : Bool) → (localBits : Int) → (hasRemote : Bool) → (remoteBits : Int) → Bool

/-! ### Specification numbers (hand-written) -/
namespace Spec

/-- OPC-UA Part 7, MinAsymmetricKeyLength / MaxAsymmetricKeyLength in bits, as
    quoted in the profile comment at the top of each `policy*.go` -/
def keyBits : String → Option (Int × Int)
  | "Basic128Rsa15" => some (1024, 2048)
  | "Basic256" => some (1024, 2048)
  | "Basic256Sha256" => some (2048, 4096)
  | "Aes128_Sha256_RsaOaep" => some (2048, 4096)
  | "Aes256_Sha256_RsaPss" => some (2048, 4096)
  | _ => none   -- policy None: no asymmetric keys, no limit

/-- Part 7 names the asymmetric encryption algorithm of each policy -/
def scheme : String → Option Scheme
  | "Basic128Rsa15" => some .pkcs1v15           -- Rsa15
  | "Basic256" => some .oaepSha1                -- RsaOaep
  | "Basic256Sha256" => some .oaepSha1          -- RSA-OAEP-SHA1
  | "Aes128_Sha256_RsaOaep" => some .oaepSha1   -- RSA-OAEP-SHA1
  | "Aes256_Sha256_RsaPss" => some .oaepSha256  -- RSA-OAEP-SHA2-256
  | "None" => some .none
  | _ => none

def sigScheme : String → Option SigScheme
  | "Basic128Rsa15" => some .pkcs1v15Sha1
  | "Basic256" => some .pkcs1v15Sha1
  | "Basic256Sha256" => some .pkcs1v15Sha256
  | "Aes128_Sha256_RsaOaep" => some .pkcs1v15Sha256
  | "Aes256_Sha256_RsaPss" => some .pssSha256
  | "None" => some .none
  | _ => none

/-- RFC 8017: the longest message one RSA operation with a `k`-byte modulus
    takes. RSAES-OAEP: `k − 2·hLen − 2`; RSAES-PKCS1-v1_5: `k − 11`.
    (Go: `EncryptOAEP` returns ErrMessageTooLong iff `len(msg) > k-2*hash.Size()-2`,
    `EncryptPKCS1v15` iff `len(msg) > k-11`.) -/
def capacity : Scheme → Int → Int
  | .none, _ => 0
  | .pkcs1v15, k => k - 11
  | .oaepSha1, k => k - 2 * 20 - 2
  | .oaepSha256, k => k - 2 * 32 - 2

end Spec

/-! ### Abstract per-block RSA -/

/-- What the Go primitive guarantees for one block. Encryption is randomised:
    `enc r p` is the ciphertext for random tape `r`. -/
structure BlockRSA where
  /-- modulus length in bytes, `PublicKey.Size()` -/
  k : Nat
  /-- longest plaintext the primitive accepts -/
  cap : Int
  enc : Nat → Bytes → Option Bytes
  dec : Bytes → Option Bytes
  enc_some : ∀ r p, (p.length : Int) ≤ cap → ∃ c, enc r p = some c
  enc_none : ∀ r p, cap < (p.length : Int) → enc r p = none
  enc_len : ∀ r p c, enc r p = some c → c.length = k
  dec_enc : ∀ r p c, enc r p = some c → dec c = some p

/-- result of a Go function that may also panic or never return -/
inductive Out where
  | ok (b : Bytes) | err | panic | diverge
  deriving Repr, DecidableEq

/-- body of `for srcRemaining > 0 { … }` in `Encrypt` for `maxBlock = mb > 0`;
    `i` counts the blocks (index into the random tape) -/
def encBlocks (R : BlockRSA) (rnd : Nat → Nat) (mb : Nat) (i : Nat) (src : Bytes) : Option Bytes :=
  if _h : src.length = 0 ∨ mb = 0 then some [] else
    match R.enc (rnd i) (src.take mb) with      -- end := min(start+maxBlock, len(src))
    | none => none                               -- `if err != nil { return nil, err }`
    | some c => (encBlocks R rnd mb (i + 1) (src.drop mb)).map (c ++ ·)
termination_by src.length
decreasing_by simp only [List.length_drop]; omega

/-- `RSAOAEP.Encrypt` / `PKCS1v15.Encrypt` with `minPadding = pad`
    (`hasKey = false`: `PublicKey == nil`) -/
def encrypt (hasKey : Bool) (R : BlockRSA) (rnd : Nat → Nat) (pad : Int) (src : Bytes) : Out :=
  if !hasKey then .err else
  let maxBlock : Int := (R.k : Int) - pad
  if src.length = 0 then .ok []                 -- the loop is not entered
  else if maxBlock < 0 then .panic              -- `src[start:end]` with end < start
  else if maxBlock = 0 then                     -- encrypts the empty block for ever
    match R.enc (rnd 0) [] with
    | none => .err
    | some _ => .diverge
  else match encBlocks R rnd maxBlock.toNat 0 src with
    | some c => .ok c
    | none => .err

/-- body of the loop in `Decrypt` (`blockSize = k`) -/
def decBlocks (R : BlockRSA) (src : Bytes) : Option Bytes :=
  if _h : src.length = 0 ∨ R.k = 0 then some [] else
    match R.dec (src.take R.k) with
    | none => none
    | some p => (decBlocks R (src.drop R.k)).map (p ++ ·)
termination_by src.length
decreasing_by simp only [List.length_drop]; omega

/-- `RSAOAEP.Decrypt` / `PKCS1v15.Decrypt` -/
def decrypt (hasKey : Bool) (R : BlockRSA) (src : Bytes) : Out :=
  if !hasKey then .err else
  if src.length = 0 then .ok []
  else if R.k = 0 then .diverge
  else match decBlocks R src with
    | some p => .ok p
    | none => .err

/-- `⌈n / mb⌉` -/
def ceilDiv (n mb : Nat) : Nat := (n + mb - 1) / mb

/-! ### A concrete instance (driver, non-vacuity): length-prefixed padding -/

/-- `[len/256, len%256] ++ p ++ filler`, refused when `p` is longer than `cap` -/
def toyEnc (k : Nat) (cap : Int) (r : Nat) (p : Bytes) : Option Bytes :=
  if (p.length : Int) ≤ cap then
    some (UInt8.ofNat (p.length / 256) :: UInt8.ofNat (p.length % 256) :: (p ++ List.replicate (k - 2 - p.length) (UInt8.ofNat r)))
  else none

def toyDec (k : Nat) (c : Bytes) : Option Bytes :=
  match c with
  | hi :: lo :: rest =>
    if c.length = k ∧ hi.toNat * 256 + lo.toNat ≤ rest.length then some (rest.take (hi.toNat * 256 + lo.toNat)) else none
  | _ => none

def toy (k : Nat) (cap : Int) (h : cap + 2 ≤ k) (hk : k < 65536) : BlockRSA where
  k := k
  cap := cap
  enc := toyEnc k cap
  dec := toyDec k
  enc_some := by
    intro r p hp
    simp [toyEnc, hp]
  enc_none := by
    intro r p hp
    simp [toyEnc, Int.not_le.mpr hp]
  enc_len := by
    intro r p c hc
    simp only [toyEnc, Option.ite_none_right_eq_some, Option.some.injEq] at hc
    obtain ⟨hp, rfl⟩ := hc
    simp only [List.length_cons, List.length_append, List.length_replicate]
    omega
  dec_enc := by
    intro r p c hc
    simp only [toyEnc, Option.ite_none_right_eq_some, Option.some.injEq] at hc
    obtain ⟨hp, rfl⟩ := hc
    -- the two length bytes read back as `p.length`
    have h1 : (UInt8.ofNat (p.length / 256)).toNat * 256 + (UInt8.ofNat (p.length % 256)).toNat = p.length := by
      simp only [UInt8.toNat_ofNat']; omega
    have h2 : p.length + (k - 2 - p.length) + 1 + 1 = k := by omega
    simp only [toyDec, h1, h2, List.length_cons, List.length_append, List.length_replicate, List.take_left,
      Nat.le_add_right, and_self, if_true]

end Opcua.Asym
