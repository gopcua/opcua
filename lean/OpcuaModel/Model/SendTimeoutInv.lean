import OpcuaModel.Model.SendTimeout
/-
  Invariants of the C19 LTS: bounded return and slot release (every
  interleaving, `InvT`), absence of the receive-gate wedge (inside the guard,
  `InvW` on top of `InvT`).  `Step` is `step?` as a relation, one rule per
  label; each step theorem goes through its rules and names the clauses a
  label touches.
-/
namespace Opcua.SendTimeout

inductive Step (s : St) : Label → St → Prop
  | cSend (k tmo : Nat) (opn : Bool) : k < s.n → s.cpc k = .idle → (opn = true → anyBelow s.n (openBusy s) = false) →
      Step s (.cSend k tmo opn) { s with
        handlers := upd s.handlers k true, box := upd s.box k false
        cpc := upd s.cpc k (.waiting (s.now + tmo + leniency) opn), t0 := upd s.t0 k s.now, tmo := upd s.tmo k tmo }
  | cSendFail (k : Nat) : k < s.n → s.cpc k = .idle →
      Step s (.cSendFail k) { s with
        cpc := upd s.cpc k (.finished s.now .sendError), t0 := upd s.t0 k s.now, tmo := upd s.tmo k 0 }
  | cRecv (k dl : Nat) (opn : Bool) : s.cpc k = .waiting dl opn → s.box k = true →
      Step s (.cRecv k) { s with
        box := upd s.box k false, cpc := upd s.cpc k (if opn then .returned s.now .got true else .finished s.now .got) }
  | cTimeout (k dl : Nat) (opn : Bool) : s.cpc k = .waiting dl opn → dl ≤ s.now →
      Step s (.cTimeout k (s.handlers k)) { s with
        handlers := upd s.handlers k false
        cpc := upd s.cpc k (if opn then .returned s.now .timeout true else .finished s.now .timeout) }
  | cCancel (k dl : Nat) (opn : Bool) : s.cpc k = .waiting dl opn →
      Step s (.cCancel k (s.handlers k)) { s with
        handlers := upd s.handlers k false
        cpc := upd s.cpc k (if opn then .returned s.now .cancelled true else .finished s.now .cancelled) }
  | cUnlock (k t : Nat) (how : How) : s.cpc k = .returned t how true →
      Step s (.cUnlock k) { s with rcvLocked := false, lockFor := none, cpc := upd s.cpc k (.finished t how) }
  | dRecvHit (id : Nat) (opn : Bool) : s.dpc = .recv → s.handlers id = true →
      Step s (.dRecv id opn true) { s with handlers := upd s.handlers id false, dpc := .popped id opn }
  | dRecvMiss (id : Nat) (opn : Bool) : s.dpc = .recv → s.handlers id = false →
      Step s (.dRecv id opn false) { s with dropped := s.dropped + 1 }
  | dRcvLock (k : Nat) : s.dpc = .popped k true →
      Step s .dRcvLock { s with dpc := .lockedD k, rcvLocked := true, lockFor := some k }
  | dSend (k : Nat) (opn : Bool) : (s.dpc = if opn then .lockedD k else .popped k false) →
      Step s .dSend { s with dpc := .sent k opn, box := upd s.box k true, delivered := s.delivered + 1 }
  | dWait (k : Nat) (opn : Bool) : s.dpc = .sent k opn → s.rcvLocked = false → Step s .dWait { s with dpc := .recv }
  | tick (d : Nat) : anyBelow s.n (overdue { s with now := s.now + d }) = false →
      Step s (.tick d) { s with now := s.now + d }

attribute [local grind intro] Step

theorem Step.of {s s' : St} {l : Label} (h : step? s l = some s') : Step s l s' := by
  cases l <;> simp only [step?] at h <;> grind

theorem leniency_pos : 0 < leniency := by decide

/-- time at which the call returned (from its select, or with a send error) -/
@[grind] def leftAt : CPC → Option Nat
  | .idle => none
  | .waiting _ _ => none
  | .returned t _ _ => some t
  | .finished t _ => some t

/-- the caller whose handler the dispatcher has popped and into whose channel it has not sent yet -/
@[grind] def dpcOf : DPC → Option Nat
  | .recv => none
  | .popped k _ => some k
  | .lockedD k => some k
  | .sent _ _ => none

structure InvT (s : St) : Prop where
  /-- only the callers `0 … n-1` ever start -/
  bound : ∀ k, s.cpc k ≠ .idle → k < s.n
  /-- the timer of a waiting call fires timeout + leniency after the select was entered, and the clock
      never runs further than `slack` beyond that (`tick`) -/
  dl : ∀ k dl opn, s.cpc k = .waiting dl opn → dl = s.t0 k + s.tmo k + leniency ∧ s.now < dl + s.slack
  /-- a call that has returned did so within the bound and has released its slot (C19) -/
  left : ∀ k t, leftAt (s.cpc k) = some t → t < s.t0 k + s.tmo k + leniency + s.slack ∧ s.handlers k = false
  /-- a caller that has not sent has no handler and nothing in its channel -/
  idleH : ∀ k, s.cpc k = .idle → s.handlers k = false ∧ s.box k = false
  /-- a response reaches a channel only after the handler was popped -/
  boxH : ∀ k, s.box k = true → s.handlers k = false
  /-- between `popHandler` and `ch <- msg`: the handler is gone, the channel still empty, the caller has sent -/
  dpcH : ∀ k, dpcOf s.dpc = some k → s.handlers k = false ∧ s.box k = false ∧ s.cpc k ≠ .idle

theorem invT_init (n slack : Nat) : InvT (init n slack) := by
  constructor <;> simp [init, leftAt, dpcOf]

/-- leaving the select (response, timeout, cancellation) for a state `c'` that records the return
    at `now`: flags are only cleared, and the handler of `k` is gone -/
theorem invT_leave {s : St} {k dl : Nat} {opn : Bool} {c' : CPC} {h' b' : Nat → Bool} (hi : InvT s)
    (hc : s.cpc k = .waiting dl opn) (hl : leftAt c' = some s.now) (hH : ∀ j, h' j = true → s.handlers j = true ∧ j ≠ k)
    (hB : ∀ j, b' j = true → s.box j = true) : InvT { s with handlers := h', box := b', cpc := upd s.cpc k c' } where
  bound := by have := hi.bound; grind
  dl := by have := hi.dl; grind
  left := by have := hi.left; have := hi.dl; grind
  idleH := by have := hi.idleH; grind
  boxH := by have := hi.boxH; grind
  dpcH := by have := hi.dpcH; grind

theorem invT_step {s s' : St} {l : Label} (hi : InvT s) (h : step? s l = some s') : InvT s' := by
  have hst := Step.of h
  clear h
  have lp := leniency_pos
  cases hst with
  | cSend k tmo opn hk hc =>
    exact {
      bound := by have := hi.bound; grind
      dl := by have := hi.dl; grind
      left := by have := hi.left; grind
      idleH := by have := hi.idleH; grind
      boxH := by have := hi.boxH; grind
      dpcH := by have := hi.dpcH; grind }
  | cSendFail k _ hc | cUnlock k _ _ hc =>
    exact { hi with
      bound := by have := hi.bound; grind
      dl := by have := hi.dl; grind
      left := by have := hi.left; have := hi.idleH; grind
      idleH := by have := hi.idleH; grind
      dpcH := by have := hi.dpcH; grind }
  | cRecv k dl opn hc hb =>
    exact invT_leave hi hc (by cases opn <;> rfl) (fun j hj => ⟨hj, fun e => by have := hi.boxH k hb; simp_all⟩) (by grind)
  | cTimeout k dl opn hc | cCancel k dl opn hc => exact invT_leave hi hc (by cases opn <;> rfl) (by grind) (fun _ => id)
  | dRecvHit id opn hd hh =>
    exact { hi with
      left := by have := hi.left; grind
      idleH := by have := hi.idleH; grind
      boxH := by have := hi.boxH; grind
      dpcH := by have := hi.boxH; have := hi.idleH; grind }
  | dRecvMiss => exact { hi with }
  | dRcvLock k hd => exact { hi with dpcH := by have := hi.dpcH; grind }
  | dSend k opn hd =>
    have hk := hi.dpcH k (by cases opn <;> simp_all [dpcOf])
    exact { hi with
      idleH := by have := hi.idleH; grind
      boxH := by have := hi.boxH; grind
      dpcH := nofun }
  | dWait => exact { hi with dpcH := nofun }
  | tick d hov =>
    exact { hi with
      dl := fun k dl opn (hk : s.cpc k = .waiting dl opn) => by
        refine ⟨(hi.dl k dl opn hk).1, ?_⟩
        have := anyBelow_false hov k (hi.bound k (by rw [hk]; nofun))
        simpa [overdue, hk] using this }

theorem reachable_invT {s : St} (h : Reachable s) : InvT s := by
  induction h with
  | init n slack => exact invT_init n slack
  | step l _ hs ih => exact invT_step ih hs

/-! ### inside the guard: the gate is only ever locked on behalf of an `open()` that will unlock it -/

/-- a conforming peer: an OpenSecureChannelResponse answers an OpenSecureChannel request.  An assumption
    on the peer beside the decidable `Guard`: the trace driver evaluates `Guard` only -/
def PeerOK (s : St) : Label → Prop
  | .dRecv id true true => ∃ dl, s.cpc id = .waiting dl true
  | _ => True

inductive ReachableGP : St → Prop where
  | init (n slack : Nat) : ReachableGP (init n slack)
  | step {s s' : St} (l : Label) : ReachableGP s → Guard s l → PeerOK s l → step? s l = some s' → ReachableGP s'

theorem reachableGP_reachable {s : St} (h : ReachableGP s) : Reachable s := by
  induction h with
  | init n slack => exact Reachable.init n slack
  | step l _ _ _ hs ih => exact Reachable.step l ih hs

/-- `openBusy`, read off the caller's control state -/
@[grind] def isOpen : CPC → Bool
  | .idle => false
  | .waiting _ opn => opn
  | .returned _ _ opn => opn
  | .finished _ _ => false

theorem openBusy_eq (s : St) (k : Nat) : openBusy s k = isOpen (s.cpc k) := by
  unfold openBusy
  cases s.cpc k with
  | waiting _ o | returned _ _ o => cases o <;> rfl
  | idle | finished => rfl

/-- callers from `n` on stay idle, so no `open()` below `n` means none at all -/
theorem InvT.no_open {s : St} (ht : InvT s) (h : anyBelow s.n (openBusy s) = false) (j : Nat) :
    isOpen (s.cpc j) = false := by
  by_cases hj : j < s.n
  · exact openBusy_eq s j ▸ anyBelow_false h j hj
  · have : s.cpc j = .idle := Classical.byContradiction fun hne => hj (ht.bound j hne)
    rw [this]; rfl

/-- what holds inside the guard, on top of `InvT` -/
structure InvW (s : St) : Prop where
  /-- at most one `open()` is in flight (`openingMu`) -/
  one : ∀ k k', isOpen (s.cpc k) = true → isOpen (s.cpc k') = true → k = k'
  /-- the `open()` whose response the dispatcher has just popped is still in its select (guard, `PeerOK`) -/
  popped : ∀ k, s.dpc = .popped k true → ∃ dl, s.cpc k = .waiting dl true
  /-- the gate is locked only by the dispatcher, on behalf of some `open()` … -/
  lockedFor : s.rcvLocked = true → ∃ k, s.lockFor = some k
  /-- … which has not run its deferred `rcvLocker.unlock()` yet -/
  lockOpen : ∀ k, s.lockFor = some k → isOpen (s.cpc k) = true

theorem invW_init (n slack : Nat) : InvW (init n slack) := by
  constructor <;> simp [init, isOpen]

/-- leaving the select (response, timeout, cancellation) does not change whether an `open()` is in flight -/
theorem invW_leave {s : St} {k dl : Nat} {opn : Bool} {c' : CPC} {h b : Nat → Bool} (hi : InvW s)
    (hc : s.cpc k = .waiting dl opn) (ho : isOpen c' = opn) (hp : s.dpc ≠ .popped k true) :
    InvW { s with handlers := h, box := b, cpc := upd s.cpc k c' } := by
  have hob : ∀ j, isOpen (upd s.cpc k c' j) = isOpen (s.cpc j) := by grind
  exact { hi with
    one := by simpa only [hob] using hi.one
    popped := by have := hi.popped; grind
    lockOpen := by simpa only [hob] using hi.lockOpen }

theorem invW_step {s s' : St} {l : Label} (ht : InvT s) (hi : InvW s) (hg : Guard s l) (hp : PeerOK s l)
    (h : step? s l = some s') : InvW s' := by
  have hst := Step.of h
  clear h
  cases hst with
  | cSend k tmo opn hk hc ho =>
    -- an `open()` starts only when none is in flight
    have hb : opn = true → ∀ j, isOpen (s.cpc j) = false := fun e => ht.no_open (ho e)
    clear ho
    exact { hi with
      one := by have := hi.one; grind
      popped := by have := hi.popped; grind
      lockOpen := by have := hi.lockOpen; grind }
  | cSendFail k hk hc =>
    exact { hi with
      one := by have := hi.one; grind
      popped := by have := hi.popped; grind
      lockOpen := by have := hi.lockOpen; grind }
  | cRecv k dl opn hc hb =>
    exact invW_leave hi hc (by cases opn <;> rfl) (fun hd => by have := (ht.dpcH k (by rw [hd]; rfl)).2.1; simp [hb] at this)
  | cTimeout k dl opn hc | cCancel k dl opn hc => exact invW_leave hi hc (by cases opn <;> rfl) hg
  | cUnlock k t how hc =>
    exact {
      one := by have := hi.one; grind
      popped := by have := hi.popped; grind
      lockedFor := nofun
      lockOpen := nofun }
  | dRecvHit id opn hd =>
    cases opn
    · exact { hi with popped := nofun }
    · exact { hi with popped := fun k e => by cases e; exact hp }
  | dRcvLock k hd =>
    obtain ⟨dl, hw⟩ := hi.popped k hd
    exact { hi with
      popped := nofun
      lockedFor := fun _ => ⟨k, rfl⟩
      lockOpen := fun j e => by cases e; rw [hw]; rfl }
  | dSend | dWait => exact { hi with popped := nofun }
  | dRecvMiss | tick => exact { hi with }

theorem reachableGP_invW {s : St} (h : ReachableGP s) : InvW s := by
  induction h with
  | init n slack => exact invW_init n slack
  | step l hr hg hp hs ih => exact invW_step (reachable_invT (reachableGP_reachable hr)) ih hg hp hs

end Opcua.SendTimeout
