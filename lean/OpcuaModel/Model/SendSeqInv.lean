import OpcuaModel.Model.SendSeqMutex
/-
  The guarded system of C11 / C16(b) and its inductive invariant `InvG`, stated
  as what it adds to the invariant `InvM` of every interleaving.

  Guard (decidable): a renewal only starts (`rLock`) when no sender is between
  the gate and `pendingReq.Add` (`gated`, `hasActive`) and no response sender
  is in flight; response senders only start while no renewal runs; no send is
  aborted once its number is drawn (neither before the first chunk, which
  would burn the number, nor between chunks, which would leave a message
  unfinished on the wire); the renewal is answered (`rFail` does not occur).  `invG_step` is laid out like `invM_step`.
-/
namespace Opcua.SendSeq

/-- in flight but not (yet) counted by `pendingReq` -/
@[grind] def uncounted : PC → Bool
  | .start => false
  | .gated => true
  | .hasActive _ => true
  | .added _ => false
  | .respActive _ => true
  | .locked _ req => !req
  | .writing _ req _ _ => !req
  | .unlocked _ => false
  | .done => false

/-- not in flight -/
def quietPC : PC → Bool
  | .start | .done => true
  | .gated | .hasActive _ | .added _ | .respActive _ | .locked _ _ | .writing _ _ _ _ | .unlocked _ => false

/-- numbered, nothing written yet -/
@[grind] def isW0 : PC → Bool
  | .writing _ _ idx _ => decide (idx = 0)
  | .start | .gated | .hasActive _ | .added _ | .respActive _ | .locked _ _ | .unlocked _ | .done => false

/-- inside a multi-chunk message -/
@[grind] def isMid : PC → Bool
  | .writing _ _ idx cnt => decide (0 < idx ∧ idx < cnt)
  | .start | .gated | .hasActive _ | .added _ | .respActive _ | .locked _ _ | .unlocked _ | .done => false

/-- the gate is locked, `Wait` has not returned -/
@[grind] def RPC.early : RPC → Bool
  | .gateLocked | .waiting => true
  | .idle | .waited | .wantOld | .holdOld | .copied _ | .sent _ | .installed _ | .failed _ | .releasedOld => false

/-- `Wait` has returned and the renewal has not failed: no sender is in flight -/
@[grind] def RPC.quiet : RPC → Bool
  | .idle | .gateLocked | .waiting | .failed _ => false
  | .waited | .wantOld | .holdOld | .copied _ | .sent _ | .installed _ | .releasedOld => true

/-- the new instance does not exist yet -/
@[grind] def RPC.preCopy : RPC → Bool
  | .gateLocked | .waiting | .waited | .wantOld | .holdOld => true
  | .idle | .copied _ | .sent _ | .installed _ | .failed _ | .releasedOld => false

@[grind →] theorem quiet_pc (p : PC) (h : quietPC p = true) :
    instOf p = none ∧ holds p = none ∧ uncounted p = false ∧ counted p = false ∧ isW0 p = false ∧ isMid p = false := by
  cases p <;> simp_all [quietPC, uncounted, isW0, isMid]

theorem quiet_of_not_counted {p : PC} (h1 : uncounted p = false) (h2 : counted p = false) : quietPC p = true := by
  cases p <;> simp_all [uncounted, quietPC]

theorem holds_instOf {p : PC} {i : Nat} (h : holds p = some i) : instOf p = some i := by
  cases p <;> simp_all

theorem isMid_holds {p : PC} (h : isMid p = true) : holds p ≠ none := by
  cases p <;> simp_all [isMid]

theorem fresh_of_not_quiet {r : RPC} (h : r.quiet = false) : r.fresh = none := by
  cases r <;> simp_all [RPC.quiet, RPC.fresh]

/-- what the guarded system leaves out: a renewal that starts while a sender is past the gate and not yet
    counted (finding C11.stale-counter-after-renewal), a response sender that starts during a renewal, every `abort`, a
    renewal that fails -/
def Guard (s : St) : Label → Prop
  | .rLock => ∀ t, t < s.n → uncounted (s.pc t) = false
  | .respGetActive _ => s.rpc = .idle
  | .abort _ => False
  | .rFail => False
  | _ => True

instance (s : St) (l : Label) : Decidable (Guard s l) := by
  cases l <;> simp only [Guard] <;> exact inferInstance

/-- reachable without leaving the guard -/
inductive ReachableG : St → Prop where
  | init (b : Int) (tk : Nat) : ReachableG (init b tk)
  | step {s s' : St} (l : Label) : ReachableG s → Guard s l → step? s l = some s' → ReachableG s'

theorem reachableG_reachable {s : St} (h : ReachableG s) : Reachable s := by
  induction h with
  | init b tk => exact Reachable.init b tk
  | step l _ _ hs ih => exact Reachable.step l ih hs

/-- what the guarded invariant adds to `ThrM` for thread `t` standing at `p`; reads every field of `s` but `pc` -/
@[grind cases] structure ThrG (s : St) (t : Nat) (p : PC) : Prop where
  /-- the instance `t` has read is still the active one: no renewal has overtaken a sender in flight -/
  readActive : ∀ i, instOf p = some i → i = s.active
  /-- from `reqLocker.lock()` until `Wait` returns nobody is in flight without being counted by `pendingReq` -/
  early : s.rpc.early = true → uncounted p = false
  /-- from the return of `Wait` until the gate reopens nobody is in flight at all -/
  quiet : s.rpc.quiet = true → quietPC p = true
  /-- whoever is between `pendingReq.Add` and `Done` is in the wait group (converse of `ThrM.pendS`) -/
  pend : counted p = true → Who.s t ∈ s.pend
  /-- the counter as the owner of the active instance's mutex sees it: the number of the last chunk on
      the wire, one ahead between `newMessage` and the first write -/
  seq : s.rpc.fresh = none → s.holder s.active = some (.s t) →
    s.seq s.active = if isW0 p then next (lastSeq s.base s.wire) else lastSeq s.base s.wire
  /-- inside a message the newest chunk on the wire is `t`'s previous one: nobody wrote in between -/
  prevChunk : ∀ i req k cnt, p = .writing i req (k + 1) cnt → headIs s.wire t k cnt
  /-- the ghost `mid` names the thread whose message is partly written -/
  mid : isMid p = true ↔ s.mid = some t
  /-- only spawned threads move -/
  bound : p ≠ .start → t < s.n

/-- what the guarded invariant adds to `ShM` -/
structure ShG (s : St) : Prop where
  /-- `reqLocker` is locked exactly while the renewal runs (one renewer; `SendGate` has several) -/
  gate : s.rpc = .idle ↔ s.reqLocked = false
  /-- the counter of the ACTIVE instance while no sender owns its mutex: the number of the last chunk -/
  seqFree : s.rpc.fresh = none → (∀ t, s.holder s.active ≠ some (.s t)) → s.seq s.active = lastSeq s.base s.wire
  /-- the counter of the instance `open` has CREATED and not installed yet: it is the one that counts
      now (copied from the old one, advanced by the OPN request), and its mutex is free -/
  seqFresh : ∀ j, s.rpc.fresh = some j → s.seq j = lastSeq s.base s.wire ∧ s.holder j = none
  /-- when no message is partly written the newest chunk is a final one -/
  midN : s.mid = none → headFinal s.wire
  /-- the property (C11) -/
  linked : Linked s.base s.wire
  /-- until `open` creates the new instance the token being renewed is the active one -/
  oldAct : s.rpc.preCopy = true → s.old = s.active
  /-- no renewal fails (guard) -/
  nofail : ∀ j, s.rpc ≠ .failed j

abbrev InvG : St → Prop := ThreadInv ThrG ShG

/-- a sender that has read an instance has read the active one, and no renewal is past `Wait`:
    there is no fresh instance -/
theorem ThrG.instOf_active {s : St} {t i : Nat} {p : PC} (h : ThrG s t p) (hp : instOf p = some i) :
    i = s.active ∧ s.rpc.fresh = none := by
  refine ⟨h.readActive i hp, fresh_of_not_quiet ?_⟩
  cases hq : s.rpc.quiet with
  | false => rfl
  | true => rw [(quiet_pc p (h.quiet hq)).1] at hp; cases hp

theorem InvG.holds_active {s : St} (hm : InvM s) (hi : InvG s) {t i : Nat} (h : holds (s.pc t) = some i) :
    i = s.active ∧ s.holder s.active = some (.s t) ∧ s.rpc.fresh = none := by
  obtain ⟨hact, hfr⟩ := (hi.thr t).instOf_active (holds_instOf h)
  exact ⟨hact, hact ▸ ((hm.thr t).mutex i).1 h, hfr⟩

/-- `Wait` returns only when every sender is quiet: none is uncounted while the renewer waits, and
    none is counted once the wait group is empty -/
theorem invG_settle {s : St} (hi : InvG s) : InvG (settle s) :=
  settle_cases (fun hw he => by
    have hq : ∀ j, quietPC (s.pc j) = true := fun j =>
      quiet_of_not_counted ((hi.thr j).early (by rw [hw]; rfl))
        (Bool.eq_false_iff.2 fun hc => List.not_mem_nil (he ▸ (hi.thr j).pend hc))
    exact ⟨fun j => { hi.thr j with
        early := nofun
        quiet := fun _ => hq j
        seq := by have := (hi.thr j).seq; grind },
      { hi.sh with
        gate := by have := hi.sh.gate; grind
        seqFree := by have := hi.sh.seqFree; grind
        seqFresh := nofun
        oldAct := by have := hi.sh.oldAct; grind
        nofail := nofun }⟩)
    (fun _ => hi)

/-- while the renewer is past `Wait` no sender holds an instance mutex and none is inside a message -/
theorem InvG.free_of_quiet {s : St} (hm : InvM s) (hi : InvG s) (hq : s.rpc.quiet = true) :
    (∀ i t, s.holder i ≠ some (.s t)) ∧ s.mid = none := by
  have hp := fun t => quiet_pc _ ((hi.thr t).quiet hq)
  refine ⟨fun i t hh => ?_, ?_⟩
  · have := (hm.thr t).mutex i
    have := hp t
    grind
  · cases hmid : s.mid with
    | none => rfl
    | some t =>
      have := (hi.thr t).mid
      have := hp t
      grind

theorem invG_step {s s' : St} {l : Label} (hm : InvM s) (hi : InvG s) (hg : Guard s l) (h : step? s l = some s') : InvG s' := by
  have hst := Step.of h
  clear h
  cases hst with
  | spawn =>
    exact ⟨fun j => { hi.thr j with bound := fun hp => Nat.lt_succ_of_lt ((hi.thr j).bound hp) }, { hi.sh with }⟩
  | gate t _ hpc ho | getActive t hpc | respGetActive t _ hpc =>
    have ht := hi.thr t
    have hgate := hi.sh.gate
    simp only [Guard] at hg
    exact hi.move rfl (by constructor <;> grind) (fun _ _ hj => { hj with }) { hi.sh with }
  | pendAdd t i hpc =>
    have ht := hi.thr t
    exact hi.move rfl (by constructor <;> grind)
      (fun _ _ hj => { hj with pend := fun hc => List.mem_cons_of_mem _ (hj.pend hc) }) { hi.sh with }
  | lockReq t i hpc hfree | lockResp t i hpc hfree =>
    have ht := hi.thr t
    obtain ⟨rfl, hfr⟩ := ht.instOf_active (i := i) (by rw [hpc]; rfl)
    have hlast : s.seq s.active = lastSeq s.base s.wire :=
      hi.sh.seqFree hfr (fun t' e => by rw [hfree] at e; cases e)
    -- `t` holds the mutex of the active instance: `seq` says nothing of the others, `seqFree` nothing at all
    exact hi.move rfl (by constructor <;> grind) (fun j hjt hj => { hj with seq := by grind })
      { hi.sh with seqFree := by grind, seqFresh := fun j e => nomatch hfr ▸ e }
  | newMsg t cnt i req hpc hcnt =>
    have ht := hi.thr t
    obtain ⟨rfl, hh, hfr⟩ := hi.holds_active hm (i := i) (by rw [hpc]; rfl)
    exact hi.move rfl (by constructor <;> grind) (fun j hjt hj => { hj with seq := by grind })
      { hi.sh with seqFree := by grind, seqFresh := fun j e => nomatch hfr ▸ e }
  | write t sq i req idx cnt hpc hlt hv =>
    have ht := hi.thr t
    have hs := hi.sh
    obtain ⟨rfl, hh, hfr⟩ := hi.holds_active hm (i := i) (by rw [hpc]; rfl)
    -- whoever holds a mutex holds that of the active instance: it is `t`
    have excl : ∀ j, j ≠ t → holds (s.pc j) = none := fun j hjt => by
      cases hj : holds (s.pc j) with
      | none => rfl
      | some i' => exact absurd (hm.holds_excl ((hi.holds_active hm hj).1 ▸ hj) (by rw [hpc]; rfl)) hjt
    have hsq : sq = next (lastSeq s.base s.wire) := by
      have := ht.seq hfr hh
      cases idx <;> grind
    have hmid : idx = 0 → s.mid = none := fun h0 => by
      cases he : s.mid with
      | none => rfl
      | some j =>
        have hj := hi.thr j
        by_cases hjt : j = t
        · grind
        · exact absurd (excl j hjt) (isMid_holds (hj.mid.2 he))
    have hlink : Linked s.base ({ inst := s.active, tok := s.tok s.active, seq := sq, msg := t, opn := false, idx := idx, cnt := cnt } :: s.wire) :=
      linked_cons hs.linked hsq (fun h0 => hs.midN (hmid h0))
        (fun hne => by cases idx with
          | zero => exact absurd rfl hne
          | succ k => exact ⟨k, rfl, ht.prevChunk _ _ _ _ hpc, rfl⟩)
    exact hi.move rfl (by constructor <;> grind [lastSeq, headIs])
      (fun j hjt hj => by
        have := excl j hjt
        exact { hj with seq := by grind, prevChunk := by grind, mid := by grind })
      { hi.sh with seqFree := by grind, seqFresh := fun j e => (nomatch hfr ▸ e), linked := hlink,
                   midN := fun he => by simp only [headFinal]; grind }
  | abort => exact hg.elim
  | unlockInst t i req hpc =>
    have ht := hi.thr t
    obtain ⟨rfl, hh, hfr⟩ := hi.holds_active hm (i := i) (by rcases hpc with hpc | ⟨c, hpc⟩ <;> rw [hpc] <;> rfl)
    -- a thread that has written its last chunk, or none at all, has not drawn a number it did not write
    have hlast : s.seq s.active = lastSeq s.base s.wire := by
      have := (hm.thr t).wbound
      have := ht.seq hfr hh
      grind
    exact hi.move rfl (by cases req <;> constructor <;> grind) (fun j hjt hj => { hj with seq := by grind })
      { hi.sh with seqFree := fun _ _ => hlast, seqFresh := fun j e => nomatch hfr ▸ e }
  | pendDone t i hpc =>
    have ht := hi.thr t
    have he : ∀ j, j ≠ t → Who.s j ∈ s.pend → Who.s j ∈ s.pend.erase (.s t) := fun j hjt =>
      (List.mem_erase_of_ne (fun e => hjt (Who.s.inj e))).2
    exact invG_settle (hi.move rfl (by constructor <;> grind)
      (fun j hjt hj => { hj with pend := fun hc => he j hjt (hj.pend hc) }) { hi.sh with })
  | rLock hr =>
    have hg' : ∀ j, uncounted (s.pc j) = false := fun j => by
      by_cases hp : s.pc j = .start
      · rw [hp]; rfl
      · exact hg j ((hi.thr j).bound hp)
    exact ⟨fun j => { hi.thr j with
        early := fun _ => hg' j
        quiet := nofun
        seq := by have := (hi.thr j).seq; grind },
      { hi.sh with
        gate := ⟨nofun, nofun⟩
        seqFree := by have := hi.sh.seqFree; grind
        seqFresh := nofun
        oldAct := fun _ => rfl
        nofail := nofun }⟩
  | rWaitBegin hr =>
    exact invG_settle ⟨fun j => { hi.thr j with
        early := by have := (hi.thr j).early; grind
        quiet := nofun
        seq := by have := (hi.thr j).seq; grind },
      { hi.sh with
        gate := by have := hi.sh.gate; grind
        seqFree := by have := hi.sh.seqFree; grind
        seqFresh := nofun
        oldAct := by have := hi.sh.oldAct; grind
        nofail := nofun }⟩
  | rWaitDone hr | rUnlock hr =>
    exact ⟨fun j => { hi.thr j with
        early := nofun
        quiet := by have := (hi.thr j).quiet; grind
        seq := by have := (hi.thr j).seq; grind },
      { hi.sh with
        gate := by have := hi.sh.gate; grind
        seqFree := by have := hi.sh.seqFree; grind
        seqFresh := nofun
        oldAct := by have := hi.sh.oldAct; grind
        nofail := nofun }⟩
  | rLockOld hr hfree =>
    have ho : s.old = s.active := hi.sh.oldAct (by rw [hr]; rfl)
    exact ⟨fun j => { hi.thr j with
        early := nofun
        quiet := by have := (hi.thr j).quiet; grind
        seq := by grind },  -- by `ho` the mutex of the active instance is the renewer's
      { hi.sh with
        gate := by have := hi.sh.gate; grind
        seqFree := by have := hi.sh.seqFree; grind
        seqFresh := nofun
        oldAct := fun _ => ho
        nofail := nofun }⟩
  | rCopy hr =>
    have hq : s.rpc.quiet = true := by rw [hr]; rfl
    have hf := (hi.free_of_quiet hm hq).1
    have ho : s.old = s.active := hi.sh.oldAct (by rw [hr]; rfl)
    have hseq : s.seq s.old = lastSeq s.base s.wire := ho ▸ hi.sh.seqFree (by rw [hr]; rfl) (hf _)
    exact ⟨fun j => { hi.thr j with
        early := nofun
        quiet := by have := (hi.thr j).quiet; grind
        seq := nofun },
      { hi.sh with
        gate := by have := hi.sh.gate; grind
        seqFree := nofun
        seqFresh := by grind  -- `hseq`
        oldAct := nofun
        nofail := nofun }⟩
  | rSendOPN sq j hr hv =>
    have hq : s.rpc.quiet = true := by rw [hr]; rfl
    have hmid := (hi.free_of_quiet hm hq).2
    have hf := hi.sh.seqFresh j (by rw [hr]; rfl)
    have hlink : Linked s.base ({ inst := j, tok := 0, seq := sq, msg := 0, opn := true, idx := 0, cnt := 1 } :: s.wire) :=
      linked_cons hi.sh.linked (by simp [← hv, hf.1]) (fun _ => hi.sh.midN hmid) (fun hne => absurd rfl hne)
    exact ⟨fun t => { hi.thr t with
        early := nofun
        quiet := by have := (hi.thr t).quiet; grind
        seq := nofun
        prevChunk := by have := (hi.thr t).quiet; grind },
      { hi.sh with
        gate := by have := hi.sh.gate; grind
        seqFree := nofun
        seqFresh := by grind [lastSeq]  -- `hf`
        midN := fun _ => rfl
        linked := hlink
        oldAct := nofun
        nofail := nofun }⟩
  | rInstall tk j hr =>
    have hf := hi.sh.seqFresh j (by rw [hr]; rfl)
    exact ⟨fun t => { hi.thr t with
        readActive := by have := (hi.thr t).quiet; grind
        early := nofun
        quiet := by have := (hi.thr t).quiet; grind
        seq := by grind },  -- by `hf` the mutex of the new active instance is free
      { hi.sh with
        gate := by have := hi.sh.gate; grind
        seqFree := fun _ _ => hf.1
        seqFresh := nofun
        oldAct := nofun
        nofail := nofun }⟩
  | rFail => exact hg.elim
  | rUnlockOld j hr =>
    have hr : s.rpc = .installed j := hr.resolve_right (hi.sh.nofail j)
    have hq : s.rpc.quiet = true := by rw [hr]; rfl
    have hf := (hi.free_of_quiet hm hq).1
    exact ⟨fun t => { hi.thr t with
        early := nofun
        quiet := by have := (hi.thr t).quiet; grind
        seq := by grind },  -- by `hf` no sender owns a mutex
      { hi.sh with
        gate := by have := hi.sh.gate; grind
        seqFree := by have := hi.sh.seqFree; grind
        seqFresh := nofun
        oldAct := nofun
        nofail := nofun }⟩

theorem invG_init (b : Int) (tk : Nat) : InvG (init b tk) := by
  refine ⟨fun t => ?_, ?_⟩ <;> constructor <;>
    simp [init, lastSeq, Linked, headFinal, uncounted, quietPC, isMid, isW0, RPC.early, RPC.quiet, RPC.fresh, RPC.preCopy]

theorem reachableG_invG {s : St} (h : ReachableG s) : InvG s := by
  induction h with
  | init b tk => exact invG_init b tk
  | step l hr hg hs ih => exact invG_step (reachable_invM (reachableG_reachable hr)) ih hg hs

end Opcua.SendSeq
