/-
  Heap model of client configuration (C23).  What `opcua.NewClient(url, opts…)`
  does to memory, reduced to what decides whether one client's options can be
  seen by another client:

  * `newConfig()` builds a tree of objects.  An object of the tree is either
    allocated for this client (`Loc.own k`) or is a package-level object every
    client points to (`Loc.glob g`) — the ALIAS FACTS (`Facts.shared`: path of
    the pointer field ↦ package-level variable), generated from the source.
  * an option assigns through selector paths starting at its `*Config`
    (`cfg.dialer.ClientACK.MaxMessageSize = n` is `write ["dialer","ClientACK",
    "MaxMessageSize"] n`); assigning a pointer replaces the object below the
    path: by an object the caller supplied (`Dialer(d)`: `redirect ["dialer"]
    (.user u)`, `Loc.user k u` — callers give different clients different
    objects), by one this application of the option allocates (`redirect p .fresh`, an
    object of the client's own) or by one allocated when the Option VALUE was made
    (`redirect p (.value v)`, `Loc.value v`: every client the value is applied to points to it).
  * a scalar lives in a cell = (location of its object, path below it); the
    cell a path denotes is found by `resolve` from the client's own redirect
    table and the alias facts.

  The abstraction (static paths instead of pointer chasing) is tied to the real
  code by the C23 correspondence run, which predicts every client's effective
  configuration and the package defaults after random programs.
-/
namespace Opcua.CfgAlias

abbrev Path := List String

inductive Loc where
  | own (k : Nat)
  | glob (g : String)
  | user (k u : Nat)
  /-- an object allocated once per Option VALUE (outside the closure the option returns): every
      client the value is applied to points to it -/
  | value (v : Nat)
  deriving DecidableEq, Repr

/-- what an option puts in place of the object below a pointer path -/
inductive Target where
  /-- an object allocated by this application of the option -/
  | fresh
  /-- an object the caller passed to this client -/
  | user (u : Nat)
  /-- an object allocated when the Option value `v` was made -/
  | value (v : Nat)
  deriving DecidableEq, Repr

abbrev Cell := Loc × Path

structure Facts where
  /-- pointer fields of the default configuration initialised with a package-level object -/
  shared : List (Path × String)

/-- pointer path ↦ what replaced the object below it; most recent first -/
abbrev Redir := List (Path × Target)

def strictPrefix (q p : Path) : Bool := q.isPrefixOf p && decide (q.length < p.length)

/-- the cell the selector path `p` denotes for client `k` -/
def resolve (F : Facts) (k : Nat) (r : Redir) (p : Path) : Cell :=
  match r.find? (fun e => strictPrefix e.1 p) with
  | some (q, .user u) => (.user k u, p.drop q.length)
  | some (_, .fresh) => (.own k, p)
  | some (q, .value v) => (.value v, p.drop q.length)
  | none =>
    match F.shared.find? (fun e => strictPrefix e.1 p) with
    | some (q, g) => (.glob g, p.drop q.length)
    | none => (.own k, p)

inductive Step where
  | write (p : Path) (v : String)
  | redirect (p : Path) (t : Target)
  deriving DecidableEq, Repr

/-- written cells only; an unwritten cell has its initial value -/
abbrev Heap := Cell → Option String

def emptyHeap : Heap := fun _ => none

def update (h : Heap) (c : Cell) (v : String) : Heap := fun c' => if c' = c then some v else h c'

/-- the options of client `k`, in order -/
def runSteps (F : Facts) (k : Nat) : Heap → Redir → List Step → Heap × Redir
  | h, r, [] => (h, r)
  | h, r, .write p v :: rest => runSteps F k (update h (resolve F k r p) v) r rest
  | h, r, .redirect p t :: rest => runSteps F k h ((p, t) :: r) rest

def redirOf : Redir → List Step → Redir
  | r, [] => r
  | r, .write _ _ :: rest => redirOf r rest
  | r, .redirect p t :: rest => redirOf ((p, t) :: r) rest

def cellsWritten (F : Facts) (k : Nat) : Redir → List Step → List Cell
  | _, [] => []
  | r, .write p _ :: rest => resolve F k r p :: cellsWritten F k r rest
  | r, .redirect p t :: rest => cellsWritten F k ((p, t) :: r) rest

/-- a program: client `i`, `i+1`, … constructed one after the other -/
def runClients (F : Facts) : Nat → Heap → List (List Step) → Heap
  | _, h, [] => h
  | i, h, s :: rest => runClients F (i + 1) (runSteps F i h [] s).1 rest

/-- what client `k` (built with `steps`) reads at path `p` in heap `h` -/
def effective (F : Facts) (init : Cell → String) (h : Heap) (k : Nat) (steps : List Step) (p : Path) : String :=
  let c := resolve F k (redirOf [] steps) p
  (h c).getD (init c)

/-- a location more than one client can reach: a package-level object or an object of an Option value -/
def isGlob : Loc → Bool
  | .glob _ => true
  | .value _ => true
  | _ => false

/-- the guard of the partial theorem: no option of any client assigns a cell of an object several clients
    reach (`isGlob`: a package-level object or an object of an Option value) -/
def NoGlobalWrite (F : Facts) (prog : List (List Step)) : Prop :=
  ∀ k steps, prog[k]? = some steps → ∀ c ∈ cellsWritten F k [] steps, isGlob c.1 = false

/-- ISOLATION: at the end of the program every client reads, at every path,
    exactly what it would read had it been the only client ever built -/
def Isolated (F : Facts) (prog : List (List Step)) : Prop :=
  ∀ (init : Cell → String) k steps, prog[k]? = some steps → ∀ p,
    effective F init (runClients F 0 emptyHeap prog) k steps p =
    effective F init (runSteps F k emptyHeap [] steps).1 k steps p

theorem runSteps_redir (F : Facts) (k : Nat) : ∀ (s : List Step) (h : Heap) (r : Redir),
    (runSteps F k h r s).2 = redirOf r s := by
  intro s h r
  fun_induction runSteps F k h r s <;> simp_all [redirOf]

theorem frame_steps (F : Facts) (k : Nat) (c : Cell) (s : List Step) (h : Heap) (r : Redir) :
    c ∉ cellsWritten F k r s → (runSteps F k h r s).1 c = h c := by
  fun_induction runSteps F k h r s <;> simp_all [cellsWritten, update]

theorem agree_steps (F : Facts) (k : Nat) (c : Cell) (s : List Step) (h h' : Heap) (r : Redir) :
    h c = h' c → (runSteps F k h r s).1 c = (runSteps F k h' r s).1 c := by
  fun_induction runSteps F k h r s generalizing h' with
  | case1 => exact id
  | case2 h r p v rest ih => exact fun e => ih _ (by simp [update, e])
  | case3 h r p t rest ih => exact ih _

/-- where a path of client `k` can lead: its own objects, its caller's objects, or an object several
    clients reach -/
def Reach (k : Nat) (l : Loc) : Prop := l = .own k ∨ (∃ u, l = .user k u) ∨ isGlob l = true

theorem resolve_loc (F : Facts) (k : Nat) (r : Redir) (p : Path) : Reach k (resolve F k r p).1 := by
  unfold resolve
  split
  · exact Or.inr (Or.inl ⟨_, rfl⟩)
  · exact Or.inl rfl
  · exact Or.inr (Or.inr rfl)
  · split
    · exact Or.inr (Or.inr rfl)
    · exact Or.inl rfl

theorem written_loc (F : Facts) (k : Nat) (c : Cell) (s : List Step) (r : Redir) :
    c ∈ cellsWritten F k r s → Reach k c.1 := by
  fun_induction cellsWritten F k r s <;> grind [resolve_loc]

theorem Reach.unique {j k : Nat} {l : Loc} (hj : Reach j l) (hk : Reach k l) (hg : isGlob l = false) : j = k := by
  unfold Reach at hj hk
  grind

theorem frame_clients (F : Facts) (c : Cell) (cl : List (List Step)) (i : Nat) (h : Heap) :
    (∀ j steps, cl[j]? = some steps → c ∉ cellsWritten F (i + j) [] steps) → runClients F i h cl c = h c := by
  fun_induction runClients F i h cl with
  | case1 => simp
  | case2 i h s rest ih =>
    intro hc
    -- client `j` of `rest` is client `j + 1` of `s :: rest`, built as number `i + 1 + j`
    rw [ih fun j steps hj => Nat.add_right_comm i 1 j ▸ hc (j + 1) steps hj]
    exact frame_steps F i c s h [] (hc 0 s rfl)

theorem runClients_append (F : Facts) (a b : List (List Step)) (i : Nat) (h : Heap) :
    runClients F i h (a ++ b) = runClients F (i + a.length) (runClients F i h a) b := by
  fun_induction runClients F i h a <;> simp_all [runClients, Nat.add_assoc, Nat.add_comm 1]

/-- if client `k` is the only one that assigns `c`, the program leaves in `c` what that client's steps put there -/
theorem runClients_only (F : Facts) (c : Cell) {steps : List Step} (cl : List (List Step)) (k i : Nat) (h : Heap)
    (hk : cl[k]? = some steps) (ho : ∀ j st, cl[j]? = some st → j ≠ k → c ∉ cellsWritten F (i + j) [] st) :
    runClients F i h cl c = (runSteps F (i + k) h [] steps).1 c := by
  induction cl generalizing k i h with
  | nil => cases hk
  | cons s rest ih =>
    cases k with
    | zero =>
      cases hk
      exact frame_clients F c rest (i + 1) _ fun j st hj =>
        Nat.add_right_comm i 1 j ▸ ho (j + 1) st hj (Nat.succ_ne_zero j)
    | succ k =>
      rw [runClients, ih k (i + 1) _ hk fun j st hj hjk =>
        Nat.add_right_comm i 1 j ▸ ho (j + 1) st hj (Nat.succ_ne_succ_iff.mpr hjk), Nat.add_right_comm]
      exact agree_steps F _ c steps _ _ [] (frame_steps F i c s h [] (ho 0 s rfl (Nat.succ_ne_zero k).symm))

/-- MAIN LEMMA: whatever the heap before, a client reads what it would read had it been the only one
    built, provided no OTHER client assigns a cell of an object several clients reach -/
theorem client_isolated (F : Facts) (prog : List (List Step)) (h0 : Heap) (k : Nat) {steps : List Step}
    (hk : prog[k]? = some steps)
    (hg : ∀ j, j ≠ k → ∀ st, prog[j]? = some st → ∀ c ∈ cellsWritten F j [] st, isGlob c.1 = false)
    (init : Cell → String) (p : Path) :
    effective F init (runClients F 0 h0 prog) k steps p =
    effective F init (runSteps F k h0 [] steps).1 k steps p := by
  unfold effective
  generalize hc : resolve F k (redirOf [] steps) p = c
  have hloc : Reach k c.1 := by rw [← hc]; exact resolve_loc F k _ p
  -- nobody but client `k` assigns `c`: a cell another client assigns is not of an object several clients reach,
  -- so only that client reaches it
  have hothers : ∀ j st, prog[j]? = some st → j ≠ k → c ∉ cellsWritten F (0 + j) [] st := by
    intro j st hj hjk hm
    rw [Nat.zero_add] at hm
    exact hjk ((written_loc F j c st [] hm).unique hloc (hg j hjk st hj c hm))
  simp only [runClients_only F c prog k 0 h0 hk hothers, Nat.zero_add]

def isValueTarget : Target → Bool
  | .value _ => true
  | _ => false

/-- no option of the client installs an object that belongs to an Option value -/
def valueFree : List Step → Bool
  | [] => true
  | .write _ _ :: rest => valueFree rest
  | .redirect _ t :: rest => !isValueTarget t && valueFree rest

def RedirValueFree (r : Redir) : Prop := ∀ e ∈ r, isValueTarget e.2 = false

theorem redirValueFree_nil : RedirValueFree [] := by intro e he; cases he

theorem redirValueFree_cons {p : Path} {t : Target} {r : Redir} (ht : isValueTarget t = false)
    (hr : RedirValueFree r) : RedirValueFree ((p, t) :: r) := by
  intro e he
  rcases List.mem_cons.mp he with rfl | he
  · exact ht
  · exact hr e he

theorem resolve_not_glob (F : Facts) (k : Nat) {r : Redir} (hr : RedirValueFree r) {p : Path}
    (h : (∃ e ∈ r, strictPrefix e.1 p = true) ∨ ∀ e ∈ F.shared, strictPrefix e.1 p = false) :
    isGlob (resolve F k r p).1 = false := by
  unfold resolve
  split
  · rfl
  · rfl
  · rename_i q w hq
    have := hr _ (List.mem_of_find?_eq_some hq)
    simp [isValueTarget] at this
  · rename_i hnone
    split
    · rename_i q g hq
      rcases h with ⟨e, he, hp⟩ | h
      · have := List.find?_eq_none.mp hnone e he
        simp [hp] at this
      · have hq' := List.find?_some hq
        rw [h _ (List.mem_of_find?_eq_some hq)] at hq'
        cases hq'
    · rfl

theorem written_not_glob (F : Facts) (k : Nat) (s : List Step) (r : Redir) (hr : RedirValueFree r)
    (hs : valueFree s = true)
    (hw : ∀ p v, .write p v ∈ s →
      (∃ e ∈ r, strictPrefix e.1 p = true) ∨ ∀ e ∈ F.shared, strictPrefix e.1 p = false) :
    ∀ c ∈ cellsWritten F k r s, isGlob c.1 = false := by
  fun_induction cellsWritten F k r s with
  | case1 => simp
  | case2 r p v rest ih =>
    intro c hc
    rcases List.mem_cons.mp hc with rfl | hc
    · exact resolve_not_glob F k hr (hw p v List.mem_cons_self)
    · exact ih hr hs (fun p v hm => hw p v (List.mem_cons_of_mem _ hm)) c hc
  | case3 r q t rest ih =>
    simp only [valueFree, Bool.and_eq_true, Bool.not_eq_true'] at hs
    exact ih (redirValueFree_cons hs.1 hr) hs.2 fun p v hm =>
      (hw p v (List.mem_cons_of_mem _ hm)).imp_left fun ⟨e, he, hp⟩ => ⟨e, List.mem_cons_of_mem _ he, hp⟩

/-- from the empty redirect table: only the shared defaults can lead a path to a shared object -/
theorem written_not_glob_nil (F : Facts) (k : Nat) (s : List Step) (hs : valueFree s = true)
    (hw : ∀ p v, .write p v ∈ s → ∀ e ∈ F.shared, strictPrefix e.1 p = false) :
    ∀ c ∈ cellsWritten F k [] s, isGlob c.1 = false :=
  written_not_glob F k s [] redirValueFree_nil hs fun p v hm => .inr (hw p v hm)

theorem noGlobalWrite_of_no_shared (F : Facts) (hF : F.shared = []) (prog : List (List Step))
    (hv : ∀ steps ∈ prog, valueFree steps = true) :
    NoGlobalWrite F prog := by
  intro k steps hk
  exact written_not_glob_nil F k steps (hv steps (List.mem_of_getElem? hk)) fun p v _ => by simp [hF]

/-! ### options by name: the static guard -/

def stepPath : Step → Path
  | .write p _ => p
  | .redirect p _ => p

/-- one use of an option: its name and what it assigns -/
structure OptUse where
  name : String
  steps : List Step
  deriving Repr

abbrev Footprints := List (String × List (Path × Bool))

/-- the assignments of the use stay inside the option's footprint -/
def Conforms (opts : Footprints) (u : OptUse) : Prop :=
  ∃ fp, opts.lookup u.name = some fp ∧ ∀ s ∈ u.steps, ∃ e ∈ fp, e.1.isPrefixOf (stepPath s) = true

/-- the footprint path lies strictly below a shared object: the option assigns a field of it -/
def writesShared (F : Facts) (fp : List (Path × Bool)) : Bool :=
  fp.any fun e => F.shared.any fun s => strictPrefix s.1 e.1

/-- the footprint path is a shared pointer field or lies above one: the option replaces that part of the tree -/
def replacesShared (F : Facts) (fp : List (Path × Bool)) : Bool :=
  fp.any fun e => F.shared.any fun s => e.1.isPrefixOf s.1

def sharedWriters (F : Facts) (opts : Footprints) : List String :=
  (opts.filter fun o => writesShared F o.2).map (·.1)

def sharedReplacers (F : Facts) (opts : Footprints) : List String :=
  (opts.filter fun o => replacesShared F o.2).map (·.1)

def flatten (uses : List OptUse) : List Step := uses.flatMap (·.steps)

theorem cellsWritten_append (F : Facts) (k : Nat) (a b : List Step) (r : Redir) :
    cellsWritten F k r (a ++ b) = cellsWritten F k r a ++ cellsWritten F k (redirOf r a) b := by
  fun_induction cellsWritten F k r a <;> simp_all [cellsWritten, redirOf]

theorem footprint_avoids_shared (F : Facts) {fp : List (Path × Bool)} (hws : writesShared F fp = false)
    (hrs : replacesShared F fp = false) {e : Path × Bool} (he : e ∈ fp) {p : Path}
    (hep : e.1.isPrefixOf p = true) : ∀ s ∈ F.shared, strictPrefix s.1 p = false := by
  intro s hs
  simp only [writesShared, replacesShared, List.any_eq_false, Bool.not_eq_true] at hws hrs
  rw [Bool.eq_false_iff]
  intro hsp
  simp only [strictPrefix, Bool.and_eq_true, decide_eq_true_eq, List.isPrefixOf_iff_prefix] at hsp hep
  by_cases hlen : s.1.length < e.1.length
  · -- s strictly above e: the option writes a field of the shared object
    have h3 := List.prefix_of_prefix_length_le hsp.1 hep (by omega)
    simpa [strictPrefix, List.isPrefixOf_iff_prefix.mpr h3, hlen] using hws e he s hs
  · have h3 := List.prefix_of_prefix_length_le hep hsp.1 (by omega)
    simpa [List.isPrefixOf_iff_prefix.mpr h3] using hrs e he s hs

/-! ### Option values applied to several clients -/

/-- one application of an Option value: the option's name, the identity of the VALUE (the same
    value may be applied to several clients: a slice of base options) and what the application
    assigns, with every allocation marked `fresh` -/
structure App where
  name : String
  value : Nat
  steps : List Step
  deriving Repr

/-- what the application really installs: an allocation the option constructor performs OUTSIDE
    the closure it returns (`captured`: option ↦ pointer paths, generated) is one object per value -/
def realise (captured : List (String × List Path)) (a : App) : List Step :=
  a.steps.map fun s =>
    match s with
    | .redirect p .fresh =>
      if ((captured.lookup a.name).getD []).contains p then .redirect p (.value a.value) else .redirect p .fresh
    | s => s

theorem realise_nil (a : App) : realise [] a = a.steps := by
  unfold realise
  refine (List.map_congr_left fun s _ => ?_).trans (List.map_id _)
  split <;> simp

theorem valueFree_append (a b : List Step) : valueFree (a ++ b) = (valueFree a && valueFree b) := by
  fun_induction valueFree a <;> simp_all [valueFree, Bool.and_assoc]

theorem valueFree_flatMap {α} (f : α → List Step) (l : List α) :
    valueFree (l.flatMap f) = l.all fun a => valueFree (f a) := by
  induction l with
  | nil => rfl
  | cons a l ih => rw [List.flatMap_cons, valueFree_append, ih, List.all_cons]

end Opcua.CfgAlias
