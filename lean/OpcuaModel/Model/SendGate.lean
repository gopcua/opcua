/-
  C11 / C16: the renewal gate `reqLocker` with several renewers and `Close()`.

  `conditionLocker.lock()` sets the flag and never blocks, `unlock()` clears it
  whoever set it.  `renew` brackets a renewal with lock()/unlock(); the public
  `Renew()` can run while the renewal scheduled by the library is in progress;
  `close()` calls `reqLocker.unlock()` (and `rcvLocker.unlock()`) first thing.

    rLock i     renewer i: `s.reqLocker.lock()`
    rUnlock i   renewer i: deferred `s.reqLocker.unlock()`
    close       `close()`: `s.reqLocker.unlock()`
    pass t      a request passes `s.reqLocker.waitIfLock()` (needs the flag clear)
-/
namespace Opcua.SendGate

structure St where
  locked : Bool
  /-- renewers between their lock() and their unlock() -/
  holders : List Nat
  /-- ghost: requests that passed the gate while a renewal was in progress -/
  badPass : Nat

def init : St := { locked := false, holders := [], badPass := 0 }

inductive Label where
  | rLock (i : Nat) | rUnlock (i : Nat) | close | pass (t : Nat)
  deriving DecidableEq, Repr

def step? (s : St) : Label → Option St
  | .rLock i => if i ∈ s.holders then none else some { s with locked := true, holders := i :: s.holders }
  | .rUnlock i => if i ∈ s.holders then some { s with locked := false, holders := s.holders.erase i } else none
  | .close => some { s with locked := false }
  | .pass _ => if s.locked then none else some { s with badPass := if s.holders = [] then s.badPass else s.badPass + 1 }

def run? (s : St) : List Label → Option St
  | [] => some s
  | l :: ls => match step? s l with
    | some s' => run? s' ls
    | none => none

inductive Reachable : St → Prop where
  | init : Reachable init
  | step {s s' : St} (l : Label) : Reachable s → step? s l = some s' → Reachable s'

/-- guard: one renewal at a time, and the channel is not closed while one runs -/
def Guard (s : St) : Label → Prop
  | .rLock _ => s.holders = []
  | .close => s.holders = []
  | _ => True

instance (s : St) (l : Label) : Decidable (Guard s l) := by
  cases l <;> simp only [Guard] <;> exact inferInstance

inductive ReachableG : St → Prop where
  | init : ReachableG init
  | step {s s' : St} (l : Label) : ReachableG s → Guard s l → step? s l = some s' → ReachableG s'

/-- inside the guard the gate is closed exactly while a renewal is in progress,
    and no request ever passes it during a renewal -/
theorem guarded_inv {s : St} (h : ReachableG s) :
    s.holders.length ≤ 1 ∧ (s.holders ≠ [] ↔ s.locked = true) ∧ s.badPass = 0 := by
  induction h with
  | init => simp [init]
  | @step s0 s1 l _ hg hs ih =>
    obtain ⟨i1, i2, i3⟩ := ih
    have hopen : s0.holders = [] ↔ s0.locked = false := by cases hl : s0.locked <;> simp_all
    cases l <;> simp only [step?] at hs
    case rLock i => split at hs <;> cases hs; simp [show s0.holders = [] from hg, i3]
    case rUnlock i =>
      split at hs <;> cases hs
      next hh =>
      -- at most one holder: it is `i`
      match hl : s0.holders, i1, hh with
      | [a], _, hh => simp_all
    case close => cases hs; simp [show s0.holders = [] from hg, i3]
    case pass t =>
      split at hs <;> cases hs
      next hl => exact ⟨i1, i2, by simp [hopen.2 (by simpa using hl), i3]⟩

end Opcua.SendGate
