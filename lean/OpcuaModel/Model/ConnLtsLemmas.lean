import OpcuaModel.Model.ConnLts
/-
  C25 — lemmas for Props/C25.lean.

  `Step` lists the transitions of the LTS one by one; `Step.of_tau` and `Step.of_obs` (together `Step.of_mem`)
  say that `tau` and `obs` have no others, so a fact about every step is proved by `cases` on `Step` and the
  step functions are not opened again.  `Good` is read through `Good.rest` (the clauses outside the `match` on the
  user thread's program point), `Good.closing` (what the user thread's clause says once Close has begun) and
  `Good.started` (at which of its program points the monitor exists).  It is kept by the steps
  of the monitor goroutine because they leave the user thread's clause alone (`Good.monitor`), by the steps of
  the user thread and of Close by computation from their guards, and by a fault of the live channel because no
  clause reads `faulted` (`Step.good`).
-/
namespace Opcua.ConnLts

/-- One constructor per transition.  `l` is the event the step is recorded as, `none` if it never is: the
    verifPoint events are labels of `obs` with `hooks` and hidden steps (`monHidden`) without.  `b` says whether
    a dead channel's dispatcher leaves its error behind. -/
inductive Step (s : St) : Option Ev → St → Prop
  -- the monitor's verifPoints: the labels exist with hooks, without them the steps are hidden
  | mError (c) : s.mpc = .disc → Step s (some (.mError c)) { s with mpc := .err c }
  | mAction {a} : s.mpc = .top a → s.cancelled = false → Step s (some (.mAction a)) { s with mpc := .act a }
  | mDone : s.mpc = .done → Step s (some .mDone) { s with mpc := .wait, stale := false, faulted := false }
  -- Close
  | cancel : s.cl = .begun → s.cancelled = false → Step s none { s with cancelled := true }
  | closed : s.cl = .begun → s.cancelled = true →
      Step s (some (.st .closed)) { s with cl := .reported, sess := false, last := .closed }
  -- environment
  | fault : s.mpc = .wait ∨ s.mpc = .done → s.faulted = false → Step s none { s with faulted := true }
  -- user thread
  | connect : s.upc = .fresh ∨ (s.upc = .failed ∧ s.cl = .no) ∧ s.mpc = .notStarted →
      Step s (some .uConnect) { s with upc := .c0 }
  | connecting : s.upc = .c0 → Step s (some (.st .connecting)) { s with upc := .c1, last := .connecting }
  | uDial : s.upc = .c1 → Step s (some .dial) { s with upc := .c2 }
  | uDialFail (b) : s.upc = .c2 → Step s none { s with upc := .cDialFailed, stale := b || s.stale }
  | uDialOk : s.upc = .c2 → Step s none { s with upc := .cSess, stale := false, faulted := false }
  | sessFail : s.upc = .cSess → Step s none { s with upc := .cClose1 }
  | sessOk : s.upc = .cSess → Step s none { s with upc := .c3, sess := true }
  | connected : s.upc = .c3 → Step s (some (.st .connected)) { s with upc := .c4, mpc := .wait, last := .connected }
  | sessClosed : s.upc = .cClose1 → Step s (some (.st .closed)) { s with upc := .cClose2, last := .closed }
  | nsFail : s.upc = .c4 → Step s none { s with upc := .cNsFail, cl := .begun }
  | connectOk : s.upc = .c4 → Step s (some .uConnectOk) { s with upc := .running }
  | connectErr : s.upc = .cDialFailed ∨ s.upc = .cClose2 → Step s (some .uConnectErr) { s with upc := .failed }
  | connectErrNs : s.upc = .cNsFail → s.cl = .reported → Step s (some .uConnectErr) { s with upc := .failed, cl := .ended }
  | close : s.upc = .running → s.cl = .no → Step s (some .uClose) { s with cl := .begun }
  | closeEnd : s.upc = .running → s.cl = .reported → Step s (some .uCloseEnd) { s with cl := .ended }
  -- monitor goroutine
  | ctxDone : s.mpc = .wait → s.cancelled = true → Step s none { s with mpc := .exit }
  | errSilent : s.mpc = .wait → s.cancelled = true → s.faulted = true ∨ s.stale = true →
      Step s none { s with mpc := .disc, faulted := false, stale := false }
  | disconnected : s.mpc = .wait → s.cancelled = false → s.faulted = true ∨ s.stale = true →
      Step s (some (.st .disconnected)) { s with mpc := .disc, last := .disconnected, faulted := false, stale := false }
  | classify {c} : s.mpc = .err c → s.auto = true → Step s none { s with mpc := .top (classify c) }
  | noAuto {c} : s.mpc = .err c → s.auto = false → Step s none { s with mpc := .exit }
  | topDone {a} : s.mpc = .top a → s.cancelled = true → Step s none { s with mpc := .exit }
  | newChanSilent (b) : s.mpc = .act .createSecureChannel → s.cancelled = true →
      Step s none { s with mpc := .dialLoop, stale := b || s.stale }
  | newChan (b) : s.mpc = .act .createSecureChannel → s.cancelled = false →
      Step s (some (.st .reconnecting)) { s with mpc := .dialLoop, last := .reconnecting, stale := b || s.stale }
  | restoreSilent : s.mpc = .act .restoreSession → s.cancelled = true → Step s none { s with mpc := .restore1 }
  | restore : s.mpc = .act .restoreSession → s.cancelled = false →
      Step s (some (.st .reconnecting)) { s with mpc := .restore1, last := .reconnecting }
  | recreateSilent : s.mpc = .act .recreateSession → s.cancelled = true → Step s none { s with mpc := .recreate1 }
  | recreate : s.mpc = .act .recreateSession → s.cancelled = false →
      Step s (some (.st .reconnecting)) { s with mpc := .recreate1, last := .reconnecting }
  | subsSilent : s.mpc = .act .restoreSubscriptions → s.cancelled = true → Step s none { s with mpc := .done }
  | subs : s.mpc = .act .restoreSubscriptions → s.cancelled = false →
      Step s (some (.st .connected)) { s with mpc := .done, last := .connected }
  | transfer : s.mpc = .act .transferSubscriptions → Step s none { s with mpc := .top .restoreSubscriptions }
  | abort : s.mpc = .act .abortReconnect → Step s none { s with mpc := .exit }
  | dialDone : s.mpc = .dialLoop → s.cancelled = true → Step s none { s with mpc := .exit }
  | mDial : s.mpc = .dialLoop → s.cancelled = false → Step s (some .dial) { s with mpc := .dialed }
  | mDialFail (b) : s.mpc = .dialed → Step s none { s with mpc := .dialWait, stale := b || s.stale }
  | mDialOk : s.mpc = .dialed → Step s none { s with mpc := .top .restoreSession, stale := false, faulted := false }
  | waitDone : s.mpc = .dialWait → s.cancelled = true → Step s none { s with mpc := .exit }
  | waitOver : s.mpc = .dialWait → s.cancelled = false → Step s none { s with mpc := .dialLoop }
  | noSession : s.mpc = .restore1 → Step s none { s with mpc := .top .recreateSession, sess := false }
  | restoreNsFail : s.mpc = .restore1 → s.sess = true → Step s none { s with mpc := .top .createSecureChannel }
  | restoreOk : s.mpc = .restore1 → s.sess = true → Step s none { s with mpc := .top .restoreSubscriptions }
  | recreateFail (b) : s.mpc = .recreate1 → Step s none { s with mpc := .top .createSecureChannel, sess := b }
  | recreateOk : s.mpc = .recreate1 → Step s none { s with mpc := .top .transferSubscriptions, sess := true }
  | exited : s.mpc = .exit → Step s (some (.st .closed)) { s with mpc := .dead, last := .closed }

theorem Step.of_tau {s s' : St} (h : s' ∈ tau s) : ∃ l, Step s l s' := by
  rcases s with ⟨upc, mpc, cl, ca, sess, last, auto, hooks, fa, stl⟩
  simp only [tau, List.mem_append] at h
  rcases h with (((hA | hB) | hF) | hC) | hD
  · cases hooks <;> simp at hA
    cases mpc <;> simp [monHidden] at hA
    · rcases hA with rfl | rfl | rfl | rfl | rfl | rfl <;> exact ⟨_, .mError _ rfl⟩
    · rcases hA with ⟨hc, rfl⟩; exact ⟨_, .mAction rfl hc⟩
    · subst hA; exact ⟨_, .mDone rfl⟩
  all_goals refine ⟨none, ?_⟩
  · simp at hB; rcases hB with ⟨⟨hc, hn⟩, rfl⟩; exact .cancel hc hn
  · simp at hF; rcases hF with ⟨⟨hm, hf⟩, rfl⟩; exact .fault hm hf
  · cases upc <;> simp at hC
    · rcases hC with rfl | rfl | rfl
      · exact .uDialFail false rfl
      · exact .uDialFail true rfl
      · exact .uDialOk rfl
    · rcases hC with rfl | rfl
      · exact .sessFail rfl
      · exact .sessOk rfl
    · subst hC; exact .nsFail rfl
  · cases mpc with
    | wait =>
      simp at hD; rcases hD with ⟨hc, rfl | ⟨hf, rfl⟩⟩
      · exact .ctxDone rfl hc
      · exact .errSilent rfl hc hf
    | err c =>
      cases auto <;> simp at hD <;> subst hD
      · exact .noAuto rfl rfl
      · exact .classify rfl rfl
    | top a => simp at hD; rcases hD with ⟨hc, rfl⟩; exact .topDone rfl hc
    | act a =>
      cases a <;> simp at hD
      · rcases hD with ⟨hc, rfl | rfl⟩
        · exact .newChanSilent false rfl hc
        · exact .newChanSilent true rfl hc
      · rcases hD with ⟨hc, rfl⟩; exact .restoreSilent rfl hc
      · rcases hD with ⟨hc, rfl⟩; exact .recreateSilent rfl hc
      · rcases hD with ⟨hc, rfl⟩; exact .subsSilent rfl hc
      · subst hD; exact .transfer rfl
      · subst hD; exact .abort rfl
    | dialLoop => simp at hD; rcases hD with ⟨hc, rfl⟩; exact .dialDone rfl hc
    | dialed =>
      simp at hD; rcases hD with rfl | rfl | rfl
      · exact .mDialFail false rfl
      · exact .mDialFail true rfl
      · exact .mDialOk rfl
    | dialWait =>
      cases ca <;> simp at hD <;> subst hD
      · exact .waitOver rfl rfl
      · exact .waitDone rfl rfl
    | restore1 =>
      cases sess <;> simp at hD
      · subst hD; exact .noSession rfl
      · rcases hD with rfl | rfl | rfl
        · exact .noSession rfl
        · exact .restoreNsFail rfl rfl
        · exact .restoreOk rfl rfl
    | recreate1 =>
      simp at hD; rcases hD with rfl | rfl | rfl
      · exact .recreateFail false rfl
      · exact .recreateFail true rfl
      · exact .recreateOk rfl
    | _ => simp at hD

theorem Step.of_obs {s s' : St} {e : Ev} (h : s' ∈ obs s e) : Step s (some e) s' := by
  rcases s with ⟨upc, mpc, cl, ca, sess, last, auto, hooks, fa, stl⟩
  simp only [obs, List.mem_append] at h
  rcases h with hA | hB
  · cases hooks <;> simp only [Bool.false_eq_true, if_false, if_true, List.not_mem_nil] at hA
    split at hA
    · simp at hA; subst hA; exact .mError _ rfl
    · simp at hA; rcases hA with ⟨⟨hc, rfl⟩, rfl⟩; exact .mAction rfl hc
    · simp at hA; subst hA; exact .mDone rfl
    · simp at hA
  · cases e with
    | uConnect => simp at hB; rcases hB with ⟨h1, rfl⟩; exact .connect h1
    | uConnectOk => simp at hB; rcases hB with ⟨h1, rfl⟩; exact .connectOk h1
    | uConnectErr =>
      cases upc <;> simp at hB
      · subst hB; exact .connectErr (.inl rfl)
      · subst hB; exact .connectErr (.inr rfl)
      · rcases hB with ⟨h1, rfl⟩; exact .connectErrNs rfl h1
    | uClose => simp at hB; rcases hB with ⟨⟨h1, h2⟩, rfl⟩; exact .close h1 h2
    | uCloseEnd => simp at hB; rcases hB with ⟨⟨h1, h2⟩, rfl⟩; exact .closeEnd h1 h2
    | dial =>
      simp at hB; rcases hB with ⟨h1, rfl⟩ | ⟨⟨h1, h2⟩, rfl⟩
      · exact .uDial h1
      · exact .mDial h1 h2
    | st x =>
      simp only [List.mem_append] at hB
      rcases hB with (hU | hC) | hM
      · split at hU <;> simp at hU <;> subst hU
        · exact .connecting rfl
        · exact .connected rfl
        · exact .sessClosed rfl
      · simp at hC; rcases hC with ⟨⟨⟨h1, h2⟩, rfl⟩, rfl⟩; exact .closed h1 h2
      · split at hM <;> simp at hM
        · rcases hM with ⟨⟨hc, hf⟩, rfl⟩; exact .disconnected rfl hc (by cases fa <;> simp_all)
        · rcases hM with ⟨hc, rfl | rfl⟩
          · exact .newChan false rfl hc
          · exact .newChan true rfl hc
        · rcases hM with ⟨hc, rfl⟩; exact .restore rfl hc
        · rcases hM with ⟨hc, rfl⟩; exact .recreate rfl hc
        · rcases hM with ⟨hc, rfl⟩; exact .subs rfl hc
        · subst hM; exact .exited rfl
    | _ => simp at hB

theorem Step.of_mem {s s' : St} (h : s' ∈ tau s ∨ ∃ e, s' ∈ obs s e) : ∃ l, Step s l s' :=
  h.elim Step.of_tau fun ⟨_, h⟩ => ⟨_, .of_obs h⟩

/-- the clauses of `Good` outside the `match` on the user thread's program point -/
theorem Good.rest {s : St} (hi : Good s = true) :
    (s.cancelled = true ∨ monTable s.mpc s.last = true) ∧ (s.mpc = .dead → s.last = .closed) ∧
    (s.clRep = true → s.last = .closed ∧ s.cancelled = true) ∧ (s.cancelled = true → s.cl ≠ .no) ∧
    (s.stale = true → s.mpc ≠ .wait ∧ s.upc ≠ .cSess ∧ s.upc ≠ .c3) := by
  grind [Good]

/-- `Close` (the user's, or the one inside a failing `Connect`) begins only after `Connect` has started the monitor -/
theorem Good.closing {s : St} (hi : Good s = true) (hc : s.cancelled = true ∨ s.cl ≠ .no) :
    s.upc = .cNsFail ∧ s.cl ≠ .ended ∨ s.upc = .running ∨ s.upc = .failed := by
  rcases s with ⟨upc⟩
  cases upc <;> grind [Good]

/-- the monitor goroutine exists from the point where `Connect` has reported `Connected`, and not before -/
theorem Good.started {s : St} (hi : Good s = true) :
    s.mpc ≠ .notStarted ↔ s.upc = .c4 ∨ s.upc = .cNsFail ∨ s.upc = .running ∨ s.upc = .failed ∧ s.cl = .ended := by
  -- only the user thread's clause is needed
  simp only [Good, Bool.and_eq_true] at hi
  obtain ⟨⟨⟨⟨⟨⟨⟨hu, -⟩, -⟩, -⟩, -⟩, -⟩, -⟩, -⟩ := hi
  rcases s with ⟨upc⟩
  cases upc <;> simp_all <;> grind

/-- Frame lemma for the steps of the started monitor goroutine, wherever the user thread stands: they change
    `mpc`, `last`, `sess`, `faulted`, `stale` only, so `Good` is kept if the new program point fits the report. -/
theorem Good.monitor {s : St} (hi : Good s = true) (hm : s.mpc ≠ .notStarted) {m' : MPc} {l' : ConnState} {se' fa' st' : Bool}
    (hm' : m' ≠ .notStarted) (ht : s.cancelled = false → monTable s.mpc s.last = true → monTable m' l' = true) (hd : m' = .dead → l' = .closed)
    (hl : l' = s.last ∨ s.cancelled = false ∨ l' = .closed) (hw : m' = .wait → st' = false) :
    Good { s with mpc := m', last := l', sess := se', faulted := fa', stale := st' } = true := by
  rcases s with ⟨upc⟩
  -- the user thread's clause reads the monitor only through `mpc = notStarted`, which stays false
  cases upc <;> grind [Good, St.clRep]

theorem Step.good {s s' : St} {l : Option Ev} (h : Step s l s') (hi : Good s = true) : Good s' = true := by
  cases h with
  | fault => exact hi  -- no clause reads `faulted`
  | cancel | closed | connect | connecting | uDial | uDialFail | uDialOk | sessFail | sessOk
  | connected | sessClosed | nsFail | connectOk | connectErr | connectErrNs | close | closeEnd =>
    -- user thread and Close: with the guards put in, the clauses compute
    cases s
    simp only at *; subst_vars
    grind [Good, monTable, St.clRep]
  | _ =>
    -- monitor goroutine: the side conditions of the frame lemma are read off the guard, the target and `monTable`
    apply Good.monitor hi <;> simp_all +contextual [monTable]

theorem good_init (a h : Bool) : Good (init a h) = true := by
  cases a <;> cases h <;> rfl

theorem Reach.good {a h : Bool} {s : St} (hr : Reach a h s) : Good s = true := by
  induction hr with
  | init => exact good_init a h
  | tau _ hm ih => exact (Step.of_tau hm).elim fun _ h => h.good ih
  | obs e _ hm ih => exact (Step.of_obs hm).good ih

end Opcua.ConnLts
