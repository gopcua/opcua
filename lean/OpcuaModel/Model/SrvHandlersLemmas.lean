import OpcuaModel.Model.SrvHandlers
/-
  Lemmas about `step` and `body` of Model/SrvHandlers.lean: the registration table read off once
  (`handlerOf_rows`, `step_eq`), and that no handler body reads the ghost activation flag
  (`body_deactivate_out`).  Props/C35 and Props/C29 rest on them.
-/
namespace Opcua.Srv
open Opcua.Gen.SrvSession

/-- the rows of the regenerated handler table under which the 14 implemented services are found -/
theorem handlerOf_rows :
    handlerOf "FindServersRequest" = some ⟨"FindServersRequest", "DiscoveryService", "FindServers", false, "none", false⟩ ∧
    handlerOf "GetEndpointsRequest" = some ⟨"GetEndpointsRequest", "DiscoveryService", "GetEndpoints", false, "none", false⟩ ∧
    handlerOf "CreateSessionRequest" = some ⟨"CreateSessionRequest", "SessionService", "CreateSession", false, "none", false⟩ ∧
    handlerOf "ActivateSessionRequest" = some ⟨"ActivateSessionRequest", "SessionService", "ActivateSession", false, "session", true⟩ ∧
    handlerOf "CloseSessionRequest" = some ⟨"CloseSessionRequest", "SessionService", "CloseSession", false, "close", false⟩ ∧
    handlerOf "ReadRequest" = some ⟨"ReadRequest", "AttributeService", "Read", false, "none", false⟩ ∧
    handlerOf "WriteRequest" = some ⟨"WriteRequest", "AttributeService", "Write", false, "none", false⟩ ∧
    handlerOf "BrowseRequest" = some ⟨"BrowseRequest", "ViewService", "Browse", false, "none", false⟩ ∧
    handlerOf "CreateSubscriptionRequest" = some ⟨"CreateSubscriptionRequest", "SubscriptionService", "CreateSubscription", false, "session", true⟩ ∧
    handlerOf "PublishRequest" = some ⟨"PublishRequest", "SubscriptionService", "Publish", false, "session", true⟩ ∧
    handlerOf "DeleteSubscriptionsRequest" = some ⟨"DeleteSubscriptionsRequest", "SubscriptionService", "DeleteSubscriptions", false, "session", true⟩ ∧
    handlerOf "CreateMonitoredItemsRequest" = some ⟨"CreateMonitoredItemsRequest", "MonitoredItemService", "CreateMonitoredItems", false, "session", true⟩ ∧
    handlerOf "SetMonitoringModeRequest" = some ⟨"SetMonitoringModeRequest", "MonitoredItemService", "SetMonitoringMode", false, "session", true⟩ ∧
    handlerOf "DeleteMonitoredItemsRequest" = some ⟨"DeleteMonitoredItemsRequest", "MonitoredItemService", "DeleteMonitoredItems", false, "session", true⟩ := by
  -- one evaluation: the kernel normalises each name of the table once for all 14 searches
  decide +kernel

theorem handlerOf_closeSession : handlerOf "CloseSessionRequest" = some ⟨"CloseSessionRequest", "SessionService", "CloseSession", false, "close", false⟩ :=
  handlerOf_rows.2.2.2.2.1

/-! ### the dispatcher, with the table read off -/

/-- the requests whose row of the registration table says: session looked up and compared with nil -/
@[simp] def sessionChecked : Req → Bool
  | .activateSession .. | .createSubscription _ | .publish | .deleteSubscriptions _
  | .createMonitoredItems .. | .setMonitoringMode _ | .deleteMonitoredItems _ => true
  | .other n => (handlerOf n).any fun h => !h.unsupported && h.lookup == "session" && h.nilChecked
  | _ => false

/-- The one reading of the table against `Req.name`: a request other than `.other` is registered, not a stub,
    and its row has the session test exactly when `sessionChecked` says so.  `step_eq`, `C35.guard_eq` and
    `handlerOf_sessionChecked` take the row from here instead of walking the table again. -/
theorem handlerOf_name (r : Req) : (∃ n, r = .other n) ∨
    ∃ h, handlerOf r.name = some h ∧ h.unsupported = false ∧
      (h.lookup == "session" && h.nilChecked) = sessionChecked r := by
  cases r with
  | other n => exact .inl ⟨n, rfl⟩
  | _ => exact .inr (by simp [Req.name, handlerOf_rows])

/-- `step` without the table: a session-checked request without session is refused, every other request
    runs its body (for a stub or an unregistered service the body is the fault the dispatcher answers).
    The test vectors of C29 and C35 rewrite with it before they evaluate (`simp only [step_eq]; decide +kernel`):
    otherwise the kernel searches the table of 37 names at every `step`, three to ten times the cost of the
    rest (nothing is gained for `.other`, whose `sessionChecked` is that search). -/
theorem step_eq (st : St) (t : Tok) (r : Req) :
    step st t r = if sessionChecked r && (findSession st t).isNone then (st, .sessionErr) else body st t r := by
  rcases handlerOf_name r with ⟨n, rfl⟩ | ⟨h, hh, hu, hc⟩
  · cases hh : handlerOf n with
    | none => simp [step, Req.name, body, hh]
    | some h => cases hu : h.unsupported <;> simp [step, Req.name, body, hh, hu]
  · simp only [step, hh, hu, hc]; rfl

theorem handlerOf_sessionChecked {r : Req} (h : sessionChecked r = true) :
    ∃ x, handlerOf r.name = some x ∧ x.unsupported = false ∧ x.lookup = "session" ∧ x.nilChecked = true := by
  rcases handlerOf_name r with ⟨n, rfl⟩ | ⟨x, hx, hu, hc⟩
  · simp only [sessionChecked, Option.any_eq_true, Bool.and_eq_true, Bool.not_eq_true', beq_iff_eq] at h
    obtain ⟨x, hx, ⟨hu, hl⟩, hn⟩ := h
    exact ⟨x, hx, hu, hl, hn⟩
  · simp only [h, Bool.and_eq_true, beq_iff_eq] at hc
    exact ⟨x, hx, hu, hc.1, hc.2⟩

/-- `Node.Access` never dereferences nil on an attribute a client can have written -/
theorem accessCheck_ne_none (a : AttrV) : accessCheck a ≠ none := by cases a <;> simp [accessCheck]

/-! ### the activation flag is never read -/

def deact (s : Session) : Session := { s with activated := false }

def deactivate (st : St) : St := { st with sessions := st.sessions.map deact }

@[simp] theorem deact_token (s : Session) : (deact s).token = s.token := rfl
@[simp] theorem deact_certRsa (s : Session) : (deact s).certRsa = s.certRsa := rfl
@[simp] theorem deact_queued (s : Session) : (deact s).queued = s.queued := rfl

theorem findSession_deactivate (st : St) (t : Tok) :
    findSession (deactivate st) t = (findSession st t).map deact := by
  unfold findSession deactivate
  simp only [List.find?_map]
  congr

@[simp] theorem findSub_deactivate (st : St) (i : Nat) : findSub (deactivate st) i = findSub st i := rfl
@[simp] theorem findItem_deactivate (st : St) (i : Nat) : findItem (deactivate st) i = findItem st i := rfl

theorem delSubsLoop_deactivate (st : St) (c : Option Session) (ids : List Nat) :
    delSubsLoop (deactivate st) (c.map deact) ids = delSubsLoop st c ids := by
  fun_induction delSubsLoop st c ids <;> simp_all [delSubsLoop]

theorem itemLoop_deactivate (st : St) (c : Option Session) (site : Site) (u m : Bool) (ids : List Nat) :
    itemLoop (deactivate st) (c.map deact) site u m ids = itemLoop st c site u m ids := by
  fun_induction itemLoop st c site u m ids <;> simp_all [itemLoop]

@[simp] theorem deactivate_endpointsEmpty (st : St) : (deactivate st).endpointsEmpty = st.endpointsEmpty := rfl
@[simp] theorem deactivate_accessAttr (st : St) : (deactivate st).accessAttr = st.accessAttr := rfl
@[simp] theorem deactivate_dataTypeAttr (st : St) : (deactivate st).dataTypeAttr = st.dataTypeAttr := rfl
@[simp] theorem deactivate_subs (st : St) : (deactivate st).subs = st.subs := rfl
@[simp] theorem deactivate_items (st : St) : (deactivate st).items = st.items := rfl
@[simp] theorem deactivate_nextItem (st : St) : (deactivate st).nextItem = st.nextItem := rfl
@[simp] theorem deactivate_lastSub (st : St) : (deactivate st).lastSub = st.lastSub := rfl

theorem body_deactivate_out (st : St) (t : Tok) (r : Req) :
    (body (deactivate st) t r).2 = (body st t r).2 := by
  -- by the leaves of `body`: under the conditions of a leaf the deactivated state takes the same leaf,
  -- since every lookup commutes with `deact` and no test reads `activated`
  fun_cases body st t r <;>
    simp +zetaDelta [body, findSession_deactivate, delSubsLoop_deactivate, itemLoop_deactivate, *] at *
  -- left over: CreateSubscription with a small interval; its test of `owner`, a `let` of the session lookup,
  -- is unfolded in the hypotheses by the first pass, where a second pass finds it
  all_goals simp [*]

end Opcua.Srv
