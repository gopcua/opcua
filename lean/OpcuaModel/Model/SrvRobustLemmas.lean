import OpcuaModel.Model.SrvRobust
import OpcuaModel.Model.SrvHandlersLemmas
/-
  Lemmas for Props/C29: the loops of the handler bodies in the vocabulary of `safeBody` (`…_isOk`), the
  dispatcher against `preempted`, request sequences (`runSteps_isCrash`), where a body crashes and what it
  does to the tables (`body_crash_iff`, `body_tables`), well-formed tables.
-/
namespace Opcua.Srv
open Opcua.Gen.SrvRobust Opcua.Gen.SrvSession

theorem wrap64_of_inRange (x : Int) (h1 : -9223372036854775808 ≤ x) (h2 : x < 9223372036854775808) :
    wrap64 x = x := by
  unfold wrap64
  rw [Int.emod_eq_of_lt (by omega) (by omega)]
  omega

theorem delSubsLoop_isOk (st : St) (t : Tok) (ids : List Nat) :
    (delSubsLoop st (findSession st t) ids).isOk =
      ids.all fun id => (findSub st id).isNone || (sessionKnown st t && subOwned st id) := by
  fun_induction delSubsLoop st (findSession st t) ids <;>
    simp_all [Except.isOk, Except.toBool, subOwned, sessionKnown]

theorem itemLoop_isOk (st : St) (t : Tok) (site : Site) (u m : Bool) (ids : List Nat) :
    (itemLoop st (findSession st t) site u m ids).isOk = ids.all (itemSafe st t u) := by
  fun_induction itemLoop st (findSession st t) site u m ids <;>
    simp_all [Except.isOk, Except.toBool, itemSafe, itemOk, subOwned, sessionKnown]

theorem deleteLoop_panics (fuel : Nat) (l : List Nat) (n : Nat) (hn : 0 < n)
    (hf : l.length < fuel + n) (h0 : 0 < fuel) : deleteLoop fuel l n = none := by
  induction fuel generalizing l with
  | zero => omega
  | succ f ih =>
    rw [deleteLoop, if_pos hn]
    split
    · rfl
    · have hl : (l.eraseIdx n).length = l.length - 1 := List.length_eraseIdx_of_lt (by omega)
      exact ih _ (by omega) (by omega)

theorem dispatch_fill (cap used k : Nat) (rest : List Job) (h : used + k ≤ cap) :
    dispatch cap used (List.replicate k ⟨true, 1⟩ ++ rest) = List.replicate k true ++ dispatch cap (used + k) rest := by
  induction k generalizing used with
  | zero => rfl
  | succ k ih =>
    rw [List.replicate_succ, List.cons_append, dispatch, if_pos rfl, if_pos (show used + 1 ≤ cap by omega),
      ih (used + 1) (by omega), Nat.add_assoc, Nat.add_comm 1 k]
    rfl

/-! ### dispatcher level: pre-empted requests never reach a handler body -/

theorem step_preempted (st : St) (t : Tok) (r : Req) (h : preempted st t r = true) :
    (step st t r).2.isCrash = false := by
  unfold preempted at h
  unfold step
  cases hh : handlerOf r.name with
  | none => rfl
  | some x =>
    simp only [hh] at h
    by_cases hu : x.unsupported = true
    · simp [hu, unsupportedFault, Out.isCrash]
    · simp only [hu, Bool.false_or, Bool.false_eq_true, if_false] at h ⊢
      simp [h, Out.isCrash]

theorem step_not_preempted (st : St) (t : Tok) (r : Req) (h : preempted st t r = false) :
    step st t r = body st t r := by
  unfold preempted at h
  unfold step
  cases hh : handlerOf r.name with
  | none => simp [hh] at h
  | some x =>
    simp only [hh, Bool.or_eq_false_iff] at h
    simp [h.1, h.2]

/-- a request of a nil-checked handler that was not pre-empted has its session in the table -/
theorem sessionKnown_of_not_preempted {st : St} {t : Tok} {r : Req} (hp : preempted st t r = false)
    (hr : sessionChecked r = true) : sessionKnown st t = true := by
  obtain ⟨x, hx, hu, hl, hn⟩ := handlerOf_sessionChecked hr
  unfold preempted at hp
  simp only [hx, hu, hl, hn, Bool.false_or, beq_self_eq_true, Bool.true_and] at hp
  unfold sessionKnown
  cases hf : findSession st t <;> simp [hf] at hp ⊢

/-! ### request sequences -/

theorem runSteps_cons (st : St) (t : Tok) (r : Req) (rest : List (Tok × Req)) :
    runSteps st ((t, r) :: rest) =
      if (step st t r).2.isCrash || rest.isEmpty then step st t r else runSteps (step st t r).1 rest := by
  rw [runSteps]
  rcases step st t r with ⟨st', o⟩
  cases o <;> rfl

/-- a run does not crash if no step taken from a state with `P` crashes and each keeps `P` -/
theorem runSteps_isCrash {P : St → Prop} {l : List (Tok × Req)}
    (h : ∀ x ∈ l, ∀ st, P st → (step st x.1 x.2).2.isCrash = false ∧ P (step st x.1 x.2).1)
    {st : St} (hst : P st) : (runSteps st l).2.isCrash = false := by
  induction l generalizing st with
  | nil => rfl
  | cons x rest ih =>
    obtain ⟨hc, hp⟩ := h x (by simp) st hst
    rw [runSteps_cons, hc]
    split
    · exact hc
    · exact ih (fun y hy => h y (by simp [hy])) hp

/-- inside the handler bodies: a panic iff the shape is not `safeBody` -/
theorem body_crash_iff (st : St) (t : Tok) (r : Req) : (body st t r).2.isCrash = !safeBody st t r := by
  cases r with
  | findServers =>
    cases h1 : st.endpointsEmpty <;> cases h2 : findServersChecksEndpoints <;> simp [body, safeBody, h1, h2, Out.isCrash]
  | getEndpoints => simp [body, safeBody, Out.isCrash]
  | createSession k s c =>
    cases s <;> cases c <;> cases hn : newSessionSignatureChecked <;> simp [body, safeBody, Out.isCrash, hn]
  | activateSession s ok =>
    simp only [body, safeBody]
    cases hf : findSession st t with
    | none => simp [Out.isCrash]
    | some x =>
      obtain ⟨xt, xa, xq, xr⟩ := x
      cases s <;> cases ok <;> cases xr <;> cases hv : verifySessionSignatureChecked <;> simp [Out.isCrash]
  | closeSession => simp [body, safeBody, Out.isCrash]
  | read => simp only [body, safeBody]; split <;> simp_all [Out.isCrash, accessCheck_ne_none]
  | write v => simp only [body, safeBody]; split <;> simp_all [Out.isCrash, accessCheck_ne_none]
  | writeAttr w a => simp only [body, safeBody]; (repeat' split) <;> simp_all [Out.isCrash, accessCheck_ne_none]
  | browse c b =>
    cases c <;> cases b <;> cases h : st.dataTypeAttr <;> cases hd : dataTypeAssertionChecked <;>
      simp [body, safeBody, h, hd, Out.isCrash]
  | createSubscription iv =>
    cases iv <;> cases hf : findSession st t <;> cases hp : publishingIntervalRevised <;>
      simp [body, safeBody, effectiveInterval, sessionKnown, hf, hp, Out.isCrash]
  | publish =>
    cases hf : findSession st t <;> simp [body, safeBody, hf, Out.isCrash]
  | deleteSubscriptions ids =>
    -- the body crashes iff the loop does not complete
    rw [safeBody, ← delSubsLoop_isOk, body]
    split <;> simp [*, Except.isOk, Except.toBool, Out.isCrash]
  | createMonitoredItems s n =>
    simp only [body, safeBody, sessionKnown, subOwned]
    (repeat' split) <;> simp_all [Out.isCrash]
  | setMonitoringMode ids =>
    rw [safeBody, ← itemLoop_isOk st t "MonitoredItemService.SetMonitoringMode" _ setModeMismatchContinues, body]
    split <;> simp [*, Except.isOk, Except.toBool, Out.isCrash]
  | deleteMonitoredItems ids =>
    rw [safeBody, ← itemLoop_isOk st t "MonitoredItemService.DeleteMonitoredItems" _ delItemsMismatchContinues, body]
    split <;> simp [*, Except.isOk, Except.toBool, Out.isCrash]
  | other n => simp [body, safeBody, unsupportedFault, Out.isCrash]

/-- what a handler body can do to the subscription and item tables, as a rule for any property of the two -/
theorem body_tables {P : List Sub → List Item → Prop} (st : St) (t : Tok) (r : Req)
    (keep : P st.subs st.items)
    (createSub : ∀ iv id, r = .createSubscription iv →
      P (putSub st.subs ⟨id, (findSession st t).map (·.token)⟩) st.items)
    (deleteSubs : ∀ ids (dels : List Nat), r = .deleteSubscriptions ids →
      P (st.subs.filter fun s => !dels.contains s.id) (st.items.filter fun i => !dels.contains i.sub))
    (createItems : ∀ sub n, r = .createMonitoredItems sub n → (findSub st sub).isSome = true →
      P st.subs (st.items ++ newItems st.nextItem sub n))
    (deleteItems : ∀ ids p, r = .deleteMonitoredItems ids → P st.subs (st.items.filter p)) :
    P (body st t r).1.subs (body st t r).1.items := by
  cases r with
  | createSubscription iv => cases iv <;> simp only [body] <;> (repeat' split) <;> exact createSub _ _ rfl
  | deleteSubscriptions ids =>
    simp only [body]
    split
    · exact keep
    · exact deleteSubs ids _ rfl
  | createMonitoredItems sub n =>
    simp only [body]
    split
    · exact keep
    next sb hsb => (repeat' split) <;> first | exact keep | exact createItems sub n rfl (by rw [hsb]; rfl)
  | deleteMonitoredItems ids =>
    simp only [body]
    split
    · exact keep
    · exact deleteItems ids _ rfl
  | _ => simp only [body] <;> (repeat' split) <;> exact keep

/-! ### well-formed tables -/

theorem findSub_isSome_iff (st : St) (x : Nat) : (findSub st x).isSome = true ↔ ∃ s ∈ st.subs, s.id = x := by
  simp only [findSub, List.find?_isSome, beq_iff_eq]

theorem findSub_mem (st : St) (x : Nat) (s : Sub) (h : findSub st x = some s) : s ∈ st.subs ∧ s.id = x := by
  unfold findSub at h
  exact ⟨List.mem_of_find?_eq_some h, by simpa using List.find?_some h⟩

theorem findItem_mem (st : St) (x : Nat) (it : Item) (h : findItem st x = some it) : it ∈ st.items := by
  unfold findItem at h
  exact List.mem_of_find?_eq_some h

theorem subOwned_of_ownersSet (st : St) (hw : ownersSet st = true) (x : Nat) (s : Sub) (h : findSub st x = some s) :
    subOwned st x = true := by
  unfold subOwned
  rw [h]
  exact List.all_eq_true.mp hw s (findSub_mem st x s h).1

/-- a subscription id is harmless for a caller with a session: unknown, or owned -/
theorem subSafe_of_ownersSet (st : St) (t : Tok) (hw : ownersSet st = true) (hk : sessionKnown st t = true) (id : Nat) :
    ((findSub st id).isNone || (sessionKnown st t && subOwned st id)) = true := by
  cases hs : findSub st id with
  | none => rfl
  | some sb => simp [hk, subOwned_of_ownersSet st hw id sb hs]

/-- an item id is harmless for a caller with a session when unknown ids are skipped: a known item's
    subscription is in the table (`itemsHaveSubs`) and owned (`ownersSet`) -/
theorem itemSafe_of_wf (st : St) (t : Tok) (hw : wf st = true) (hk : sessionKnown st t = true) (id : Nat) :
    itemSafe st t true id = true := by
  simp only [wf, Bool.and_eq_true] at hw
  unfold itemSafe
  cases hit : findItem st id with
  | none => rfl
  | some it =>
    have hs := List.all_eq_true.mp hw.2 it (findItem_mem st id it hit)
    simp only [hk, itemOk, hit, Bool.true_and]
    cases hsub : findSub st it.sub with
    | none => simp [hsub] at hs
    | some sb => exact subOwned_of_ownersSet st hw.1 it.sub sb hsub

theorem putSub_owners (subs : List Sub) (id : Nat) (o : Tok) (h : (subs.all fun s => s.owner.isSome) = true) :
    ((putSub subs ⟨id, some o⟩).all fun s => s.owner.isSome) = true := by
  unfold putSub
  rw [List.all_append]
  simp only [List.all_cons, List.all_nil, Option.isSome_some, Bool.and_true]
  exact List.all_eq_true.mpr fun s hs => List.all_eq_true.mp h s (List.mem_filter.mp hs).1

theorem putSub_exists (subs : List Sub) (n : Sub) (x : Nat) (h : ∃ s ∈ subs, s.id = x) :
    ∃ s ∈ putSub subs n, s.id = x := by
  obtain ⟨s, hs, hx⟩ := h
  by_cases hn : n.id = x
  · exact ⟨n, by simp [putSub], hn⟩
  · exact ⟨s, by simp [putSub, hs, hx, Ne.symm hn], hx⟩

theorem newItems_sub (next sub n : Nat) (it : Item) (h : it ∈ newItems next sub n) : it.sub = sub := by
  induction n generalizing next with
  | zero => simp [newItems] at h
  | succ k ih =>
    simp only [newItems, List.mem_cons] at h
    rcases h with h | h
    · rw [h]
    · exact ih (next + 1) h

end Opcua.Srv
