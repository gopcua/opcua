import OpcuaModel.Model.SrvIds
import OpcuaModel.Base.Lists
/-
  Lemmas about the C32 model: the counters below the wrap, what the three loops spawn, refuse and leave
  alone, and the three outcomes of a background deletion (`applyDelete_*`).
-/
namespace Opcua.SrvIds

theorem nextID_small {c : Nat} (h : c + 1 < 4294967296) : nextID c = c + 1 := by
  simp [nextID, Nat.mod_eq_of_lt h]

theorem allocIds_small {n c : Nat} (h : c + n < 4294967296) :
    allocIds n c = (List.range' (c + 1) n, c + n) := by
  induction n generalizing c with
  | zero => rfl
  | succ n ih =>
    rw [Nat.add_comm n, ← Nat.add_assoc] at h
    rw [allocIds, nextID_small (Nat.lt_of_le_of_lt (Nat.le_add_right ..) h), ih h,
      List.range'_succ, Nat.add_comm n, ← Nat.add_assoc]

theorem putSub_fresh (l : List (Nat × SubObj)) (id : Nat) (o : SubObj) (h : id ∉ l.map (·.1)) :
    putSub l id o = l ++ [(id, o)] := by
  fun_induction putSub l id o with
  | case1 => rfl
  | case2 => exact absurd List.mem_cons_self h
  | case3 _ _ _ _ ih => exact congrArg _ (ih fun hm => h (List.mem_cons_of_mem _ hm))

theorem lookupSub_mem {l : List (Nat × SubObj)} {id : Nat} {o : SubObj} (h : lookupSub l id = some o) :
    (id, o) ∈ l := by
  fun_induction lookupSub l id with
  | case1 => cases h
  | case2 => cases h; exact List.mem_cons_self
  | case3 _ _ _ _ ih => exact List.mem_cons_of_mem _ (ih h)

theorem SubInv.next_fresh {st : St} (h : SubInv st) :
    st.subCtr + 1 ∉ liveSubIds st ∧ st.subCtr + 1 ∉ st.pending :=
  ⟨fun hm => Nat.not_succ_le_self _ (h.1 _ hm).2, fun hm => Nat.not_succ_le_self _ (h.2 _ hm).2⟩

theorem createSub_eq (st : St) (sess : Nat) (hinv : SubInv st) (hw : st.subCtr + 1 < 4294967296) :
    createSub st sess = (.subId (st.subCtr + 1),
      { st with subs := st.subs ++ [(st.subCtr + 1, ⟨st.nextUid, st.subCtr + 1, sess⟩)],
                subCtr := st.subCtr + 1, nextUid := st.nextUid + 1 }) := by
  simp only [createSub, nextID_small hw, putSub_fresh _ _ _ hinv.next_fresh.1]

/-- `createItems` below the wrap of the item counter, the allocation loop in closed form -/
theorem createItems_eq (st : St) (sess sub n : Nat) (hw : st.itemCtr + n < 4294967296) :
    createItems st sess sub n =
      match lookupSub st.subs sub with
      | none => (.errNoSub, st)
      | some o =>
        if o.owner = 0 ∨ sess = 0 then (.panic, st)
        else if o.owner ≠ sess then (.errNotYours, st)
        else (.itemIds (List.range' (st.itemCtr + 1) n),
          { st with items := st.items ++ (List.range' (st.itemCtr + 1) n).map (fun i => ⟨i, o, 0⟩),
                    itemCtr := st.itemCtr + n }) := by
  simp only [createItems, allocIds_small hw]
  cases lookupSub st.subs sub <;> rfl

theorem createItems_frame (st : St) (sess sub n : Nat) :
    (createItems st sess sub n).2.subs = st.subs ∧ (createItems st sess sub n).2.pending = st.pending ∧
    (createItems st sess sub n).2.subCtr = st.subCtr := by
  fun_cases createItems st sess sub n
  all_goals exact ⟨rfl, rfl, rfl⟩

/-- what `DeleteSubscriptions` spawns are ids of subscriptions of the requesting session -/
theorem deleteSubsLoop_spawned (subs : List (Nat × SubObj)) (sess : Nat) (ids : List Nat) (id : Nat)
    (h : id ∈ (deleteSubsLoop subs sess ids).2.1) :
    ∃ o, lookupSub subs id = some o ∧ o.owner = sess ∧ sess ≠ 0 := by
  fun_induction deleteSubsLoop subs sess ids with
  | case1 => cases h
  -- `e : deleteSubsLoop subs sess rest = (ss, sp, p)` is the `let` of the recursive call
  | case2 _ _ _ _ _ _ e ih => exact ih (e ▸ h)
  | case3 => cases h
  | case4 _ _ _ _ _ _ _ _ _ e ih => exact ih (e ▸ h)
  | case5 a _ o hl hp hne _ _ _ e ih =>
    rcases List.mem_cons.1 h with rfl | h
    · exact ⟨o, hl, (Decidable.not_not.1 hne).symm, fun z => hp (.inl z)⟩
    · exact ih (e ▸ h)

/-- the status of a named subscription that belongs to somebody else or does not exist -/
theorem deleteSubsLoop_refused (subs : List (Nat × SubObj)) (sess : Nat) (hs : sess ≠ 0) (ids : List Nat)
    (hall : ∀ id ∈ ids, lookupSub subs id = none ∨
      ∃ o, lookupSub subs id = some o ∧ o.owner ≠ sess ∧ o.owner ≠ 0) :
    deleteSubsLoop subs sess ids =
      (ids.map fun id => if (lookupSub subs id).isSome then .badSessionIdInvalid else .badSubscriptionIdInvalid,
       [], false) := by
  induction ids with
  | nil => rfl
  | cons a rest ih =>
    rw [List.forall_mem_cons] at hall
    rcases hall.1 with hn | ⟨o, ho, h1, h2⟩
    · simp [deleteSubsLoop, hn, ih hall.2]
    · simp [deleteSubsLoop, ho, ih hall.2, hs, h2, Ne.symm h1]

theorem setItemMode_other (l : List Item) (id mode : Nat) (x it : Item)
    (hx : lookupItem l id = some x) (h : it ∈ l) (hne : it ≠ x) : it ∈ setItemMode l id mode := by
  fun_induction setItemMode l id mode with
  | case1 => cases h
  | case2 a r mode =>
    rw [lookupItem, List.find?_cons_of_pos (by simp)] at hx
    cases hx
    exact List.mem_cons_of_mem _ ((List.mem_cons.1 h).resolve_left hne)
  | case3 a r id mode ha ih =>
    rw [lookupItem, List.find?_cons_of_neg (by simpa using ha)] at hx
    rcases List.mem_cons.1 h with rfl | h
    · exact List.mem_cons_self
    · exact List.mem_cons_of_mem _ (ih hx h)

/-- `SetMonitoringMode` by `sess` leaves every item of another session exactly as it was
    (whatever ids it names, known or not, and even if it ends in a nil dereference) -/
theorem setModeLoop_scoped (sess mode : Nat) (ids : List Nat) (items : List Item) (it : Item)
    (h : it ∈ items) (hf : it.sub.owner ≠ sess) : it ∈ (setModeLoop items sess mode ids).2.1 := by
  fun_induction setModeLoop items sess mode ids with
  | case1 => exact h
  | case2 _ _ _ _ _ _ _ e ih => rw [e] at ih; exact ih h
  | case3 => exact h
  | case4 _ _ _ _ _ _ _ _ _ _ e ih => rw [e] at ih; exact ih h
  | case5 items a _ x hl _ hown _ _ _ e ih =>
    rw [e] at ih
    exact ih (setItemMode_other items a mode x it hl h fun z => hf (z ▸ Decidable.not_not.1 hown))

/-- what `DeleteMonitoredItems` spawns are ids whose table entry belongs to the requester -/
theorem deleteItemsLoop_spawned (items : List Item) (sess : Nat) (ids : List Nat) (id : Nat)
    (h : id ∈ (deleteItemsLoop items sess ids).2.1) :
    ∃ x, lookupItem items id = some x ∧ x.sub.owner = sess := by
  fun_induction deleteItemsLoop items sess ids with
  | case1 => cases h
  | case2 _ _ _ _ _ _ e ih => exact ih (e ▸ h)
  | case3 => cases h
  | case4 _ _ _ _ _ _ _ _ _ e ih => exact ih (e ▸ h)
  | case5 a _ x hl _ hne _ _ _ e ih =>
    rcases List.mem_cons.1 h with rfl | h
    · exact ⟨x, hl, Decidable.not_not.1 hne⟩
    · exact ih (e ▸ h)

theorem lookupItem_self (l : List Item) (hn : (l.map (·.id)).Nodup) (it : Item) (h : it ∈ l) :
    lookupItem l it.id = some it := by
  -- the lookup finds some item with this id, which is `it` as the ids are unique
  obtain ⟨x, hx⟩ : ∃ x, lookupItem l it.id = some x :=
    Option.isSome_iff_exists.1 (List.find?_isSome.2 ⟨it, h, by simp⟩)
  rw [hx, Lists.eq_of_nodup_map hn (List.mem_of_find?_eq_some hx) h (by simpa using List.find?_some hx)]

theorem setModeLoop_refused (items : List Item) (sess mode : Nat) (hs : sess ≠ 0) (ids : List Nat)
    (hall : ∀ id ∈ ids, lookupItem items id = none ∨
      ∃ x, lookupItem items id = some x ∧ x.sub.owner ≠ sess ∧ x.sub.owner ≠ 0) :
    setModeLoop items sess mode ids =
      (ids.map fun id => if (lookupItem items id).isSome then .badSessionIdInvalid else .badMonitoredItemIdInvalid,
       items, false) := by
  induction ids with
  | nil => rfl
  | cons a rest ih =>
    rw [List.forall_mem_cons] at hall
    rcases hall.1 with hn | ⟨x, hx, h1, h2⟩
    · simp [setModeLoop, hn, ih hall.2]
    · simp [setModeLoop, hx, ih hall.2, hs, h2, h1]

theorem deleteItemsLoop_refused (items : List Item) (sess : Nat) (hs : sess ≠ 0) (ids : List Nat)
    (hall : ∀ id ∈ ids, lookupItem items id = none ∨
      ∃ x, lookupItem items id = some x ∧ x.sub.owner ≠ sess ∧ x.sub.owner ≠ 0) :
    deleteItemsLoop items sess ids =
      (ids.map fun id => if (lookupItem items id).isSome then .badSessionIdInvalid else .badMonitoredItemIdInvalid,
       [], false) := by
  induction ids with
  | nil => rfl
  | cons a rest ih =>
    rw [List.forall_mem_cons] at hall
    rcases hall.1 with hn | ⟨x, hx, h1, h2⟩
    · simp [deleteItemsLoop, hn, ih hall.2]
    · simp [deleteItemsLoop, hx, ih hall.2, hs, h2, h1]

theorem liveSubIds_erase (l : List (Nat × SubObj)) (id x : Nat) (h : x ∈ (eraseSub l id).map (·.1)) :
    x ∈ l.map (·.1) :=
  (List.filter_sublist.map _).subset h

theorem applyDelete_none (st : St) (k : Nat) (hp : st.pending[k]? = none) :
    applyDelete st k = (.noSuchPending, st) := by
  simp [applyDelete, hp]

theorem applyDelete_miss (st : St) (k id : Nat) (hp : st.pending[k]? = some id) (hl : lookupSub st.subs id = none) :
    applyDelete st k = (.applied false,
      { st with items := st.items.filter (·.sub.id ≠ id), pending := st.pending.eraseIdx k }) := by
  simp [applyDelete, hp, hl]

theorem applyDelete_hit (st : St) (k id : Nat) (o : SubObj) (hp : st.pending[k]? = some id)
    (hl : lookupSub st.subs id = some o) :
    applyDelete st k = (.applied true,
      { st with subs := eraseSub st.subs id, items := st.items.filter (·.sub.id ≠ id),
                pending := st.pending.eraseIdx k ++ [id] }) := by
  simp [applyDelete, hp, hl]

end Opcua.SrvIds
