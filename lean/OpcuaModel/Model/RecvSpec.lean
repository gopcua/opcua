import OpcuaModel.Model.Recv
/-
  Specification side of C12: what a conforming peer may send (OPC UA Part 6,
  6.7.2: a message is split into chunks that carry the same RequestId, all but
  the last are intermediate ('C'), the last one is final ('F') or an abort
  ('A'); chunks of different messages may interleave; every chunk carries the
  next SequenceNumber of the channel), and the lemmas that relate the model of
  `Receive` to it.
-/
namespace Opcua.Recv.Spec
open Opcua Opcua.Recv

/-- one message as the sender put it on the wire -/
structure SMsg where
  req : Nat
  /-- (sequence number, payload) of the intermediate chunks -/
  inter : List (Nat × Bytes)
  lastSeq : Nat
  /-- payload of the last chunk (for an aborted message: the MessageAbort body) -/
  last : Bytes
  /-- the last chunk is an abort chunk instead of a final chunk -/
  abort : Bool
  deriving Repr, DecidableEq

def SMsg.interChunks (m : SMsg) : List Chunk := m.inter.map fun p => ⟨ctC, p.1, m.req, p.2⟩
def SMsg.lastChunk (m : SMsg) : Chunk := ⟨if m.abort then ctA else ctF, m.lastSeq, m.req, m.last⟩
/-- the chunks of the message in sending order -/
def SMsg.chunks (m : SMsg) : List Chunk := m.interChunks ++ [m.lastChunk]
/-- the message body the chunks encode: all payloads in order -/
def SMsg.body (m : SMsg) : Bytes := allData m.chunks

/-- what the receiver has to return when the last chunk of `m` arrives -/
def SMsg.expected (m : SMsg) : Out :=
  if m.abort then
    match decodeAbort m.last with
    | some code => .abort m.req code
    | none => .abortBad m.req
  else .merged m.req m.body

/-- the message respects the negotiated limits -/
def SMsg.fits (cfg : Cfg) (m : SMsg) : Prop :=
  exceeds cfg.chunk0 m.inter.length cfg.maxChunkCount = false ∧
  (m.abort = false → exceeds cfg.size0 m.body.length cfg.maxMessageSize = false)

/-- the duplicate filter of `mergeChunks` skips no chunk: the message is
    aborted, or neighbouring chunks carry different numbers -/
def SMsg.noDrop (m : SMsg) : Prop :=
  m.abort = true ∨ adjDistinct (m.chunks.map (·.seq))

instance (cfg : Cfg) (m : SMsg) : Decidable (m.fits cfg) := by unfold SMsg.fits; infer_instance
instance (m : SMsg) : Decidable m.noDrop := by unfold SMsg.noDrop; infer_instance

/-- the result the specification prescribes for each chunk of a stream made of
    the messages `msgs`: nothing for an intermediate chunk, the message (or its
    abort status) for the last chunk of a message -/
def specOut (msgs : List SMsg) (c : Chunk) : Out :=
  if c.ct = ctC then .cont else
  match msgs.find? (fun m => m.req == c.req) with
  | some m => m.expected
  | none => .cont

/-- progress of message `m`: `buf` = chunks already buffered, `R` = chunks of
    this request id still to come -/
def Good (m : SMsg) (buf R : List Chunk) : Prop :=
  (buf = [] ∧ R = []) ∨ ∃ R', R = R' ++ [m.lastChunk] ∧ buf ++ R' = m.interChunks

theorem good_start (m : SMsg) : Good m [] m.chunks := .inr ⟨m.interChunks, rfl, rfl⟩

theorem interChunks_ct (m : SMsg) {c : Chunk} (h : c ∈ m.interChunks) : c.ct = ctC := by
  simp only [SMsg.interChunks, List.mem_map] at h
  obtain ⟨p, _, rfl⟩ := h
  rfl

theorem lastChunk_ct (m : SMsg) : m.lastChunk.ct ≠ ctC := by
  unfold SMsg.lastChunk
  cases m.abort <;> simp [ctA, ctC, ctF]

theorem chunks_req (m : SMsg) {c : Chunk} (h : c ∈ m.chunks) : c.req = m.req := by
  simp only [SMsg.chunks, SMsg.interChunks, SMsg.lastChunk, List.mem_append, List.mem_map, List.mem_singleton] at h
  rcases h with ⟨p, _, rfl⟩ | rfl <;> rfl

/-- the last chunk of a message, on the buffer of all its intermediate chunks: the result the
    specification prescribes, nothing retained -/
theorem step1_last (cfg : Cfg) (m : SMsg) (hfit : m.fits cfg) (hg : m.noDrop) :
    step1 cfg m.interChunks m.lastChunk = ([], m.expected) := by
  cases ha : m.abort
  · have hA : m.lastChunk.ct ≠ ctA := by simp [SMsg.lastChunk, ha]; decide
    have hmerge : mergeChunks (m.interChunks ++ [m.lastChunk]) = m.body :=
      mergeChunks_all _ (hg.resolve_left (by simp [ha]))
    rw [step1_final cfg _ hA (lastChunk_ct m), hmerge, hfit.2 ha]
    simp [SMsg.expected, ha, SMsg.lastChunk]
  · have hA : m.lastChunk.ct = ctA := by simp [SMsg.lastChunk, ha]
    rw [step1_abort cfg _ hA, SMsg.expected, if_pos ha]
    rfl

/-- an intermediate chunk of a message within the limits is buffered -/
theorem step1_buffered (cfg : Cfg) (m : SMsg) (hfit : m.fits cfg) {buf R : List Chunk} {c : Chunk}
    (hb : buf ++ c :: R = m.interChunks) : step1 cfg buf c = (buf ++ [c], .cont) := by
  have hct : c.ct = ctC := interChunks_ct m (by rw [← hb]; simp)
  have hlen : (buf ++ [c]).length ≤ m.inter.length := by
    have := congrArg List.length hb
    simp [SMsg.interChunks] at this ⊢
    omega
  rw [step1_inter cfg _ hct, exceeds_mono hfit.1 hlen]
  rfl

theorem step1_good (cfg : Cfg) (m : SMsg) (hfit : m.fits cfg) (hg : m.noDrop)
    (buf R : List Chunk) (c : Chunk) (h : Good m buf (c :: R)) :
    (step1 cfg buf c).2 = (if c.ct = ctC then Out.cont else m.expected) ∧
    Good m (step1 cfg buf c).1 R := by
  rcases h with ⟨_, h⟩ | ⟨R', hR, hb⟩
  · cases h
  cases R' with
  | nil =>
    obtain ⟨rfl, rfl⟩ : c = m.lastChunk ∧ R = [] := by simpa using hR
    rw [List.append_nil] at hb
    rw [hb, step1_last cfg m hfit hg, if_neg (lastChunk_ct m)]
    exact ⟨rfl, .inl ⟨rfl, rfl⟩⟩
  | cons c' R'' =>
    obtain ⟨rfl, rfl⟩ : c = c' ∧ R = R'' ++ [m.lastChunk] := by simpa using hR
    rw [step1_buffered cfg m hfit hb, if_pos (interChunks_ct m (by rw [← hb]; simp))]
    exact ⟨rfl, .inr ⟨R'', rfl, by simpa using hb⟩⟩

/-- one step of the table as message `m` sees it: a chunk of its request id goes through `step1` on its
    buffer, any other chunk leaves its buffer and its sub-stream alone -/
theorem step_good (cfg : Cfg) (m : SMsg) (hfit : m.fits cfg) (hg : m.noDrop) (bufs : Bufs) (c : Chunk)
    (rest : List Chunk) (h : Good m (bufs.get m.req) ((c :: rest).filter (fun c => c.req == m.req))) :
    (m.req = c.req → (step cfg bufs c).2 = if c.ct = ctC then Out.cont else m.expected) ∧
    Good m ((step cfg bufs c).1.get m.req) (rest.filter (fun c => c.req == m.req)) := by
  by_cases hreq : m.req = c.req
  · rw [List.filter_cons_of_pos (by simp [hreq]), hreq] at h
    rw [step_snd, hreq, step_get_same]
    exact (step1_good cfg m hfit hg _ _ c h).imp_left fun h _ => h
  · rw [List.filter_cons_of_neg (by simpa using Ne.symm hreq)] at h
    rw [step_get_other cfg bufs c hreq]
    exact ⟨fun h => absurd h hreq, h⟩

/-- Every chunk of the stream belongs to one of the messages, and for every
    message the sub-stream of its request id, together with what is buffered,
    is exactly its chunk sequence: then the receiver returns, chunk by chunk,
    what the specification prescribes, and ends with empty buffers. -/
theorem run_spec (cfg : Cfg) (msgs : List SMsg)
    (hfit : ∀ m ∈ msgs, m.fits cfg) (hg : ∀ m ∈ msgs, m.noDrop) :
    ∀ (stream : List Chunk) (bufs : Bufs),
      (∀ c ∈ stream, ∃ m ∈ msgs, m.req = c.req) →
      (∀ m ∈ msgs, Good m (bufs.get m.req) (stream.filter (fun c => c.req == m.req))) →
      runOuts cfg bufs stream = stream.map (specOut msgs) ∧
      (∀ m ∈ msgs, (runFinal cfg bufs stream).get m.req = []) ∧
      (∀ r, (∀ m ∈ msgs, m.req ≠ r) → (runFinal cfg bufs stream).get r = bufs.get r) := by
  intro stream
  induction stream with
  | nil =>
    intro bufs _ hgood
    refine ⟨rfl, fun m hm => ?_, fun _ _ => rfl⟩
    rcases hgood m hm with ⟨h, _⟩ | ⟨R', h, _⟩
    · exact h
    · simp at h
  | cons c rest ih =>
    intro bufs hcover hgood
    have hstep := fun m hm => step_good cfg m (hfit m hm) (hg m hm) bufs c rest (hgood m hm)
    obtain ⟨ih1, ih2, ih3⟩ := ih (step cfg bufs c).1 (fun c hc => hcover c (List.mem_cons_of_mem _ hc))
      fun m hm => (hstep m hm).2
    obtain ⟨m0, hm0, hreq0⟩ := hcover c (List.mem_cons_self ..)
    refine ⟨?_, ih2, fun r hr => ?_⟩
    · -- `specOut` looks the message of `c` up by its request id
      have hsome : (msgs.find? (fun m => m.req == c.req)).isSome :=
        List.find?_isSome.mpr ⟨m0, hm0, by simp [hreq0]⟩
      obtain ⟨m, hfm⟩ := Option.isSome_iff_exists.mp hsome
      have hreq : m.req = c.req := by simpa using List.find?_some hfm
      rw [runOuts, List.map_cons, ih1, (hstep m (List.mem_of_find?_eq_some hfm)).1 hreq, specOut, hfm]
    · simp only [runFinal]
      rw [ih3 r hr]
      exact step_get_other cfg bufs c (fun h => hr m0 hm0 (by omega))

/-! ### conforming sequence numbering -/

/-- `b` may follow `a` (Part 6, 6.7.2.4): the next number, or — once `a` is
    beyond 4294966271 = UInt32.MaxValue − 1024 — any number below 1024 -/
def nextOk (a b : Nat) : Prop := (b = a + 1 ∧ b < 4294967296) ∨ (a > 4294966271 ∧ b < 1024)

instance (a b : Nat) : Decidable (nextOk a b) := by unfold nextOk; infer_instance

/-- a conforming numbering of a chunk stream: any start value below 2^32 -/
def Numbered : List Nat → Prop
  | [] => True
  | [a] => a < 4294967296
  | a :: b :: r => a < 4294967296 ∧ nextOk a b ∧ Numbered (b :: r)

instance : (l : List Nat) → Decidable (Numbered l)
  | [] => isTrue trivial
  | [a] => by unfold Numbered; infer_instance
  | a :: b :: r => by
      unfold Numbered
      have := instDecidableNumbered (b :: r)
      infer_instance

/-- numbering without wrap-around: consecutive numbers -/
def consecutive : Nat → List Nat → Prop
  | _, [] => True
  | s, a :: r => a = s ∧ consecutive (s + 1) r

theorem consecutive_lb {s : Nat} {l : List Nat} (h : consecutive s l) : ∀ x ∈ l, s ≤ x := by
  induction l generalizing s with
  | nil => intro x hx; cases hx
  | cons a r ih =>
    intro x hx
    obtain ⟨h1, h2⟩ := h
    rcases List.mem_cons.mp hx with rfl | hx
    · omega
    · have := ih h2 x hx; omega

theorem consecutive_nodup {s : Nat} {l : List Nat} (h : consecutive s l) : l.Nodup := by
  induction l generalizing s with
  | nil => exact List.nodup_nil
  | cons a r ih =>
    obtain ⟨h1, h2⟩ := h
    rw [List.nodup_cons]
    refine ⟨?_, ih h2⟩
    intro hmem
    have := consecutive_lb h2 a hmem
    omega

/-- in a list without repetition neighbouring elements differ -/
theorem seqChain_of_nodup {prev : Nat} {l : List Nat} (h : (prev :: l).Nodup) : seqChain prev l := by
  induction l generalizing prev with
  | nil => trivial
  | cons a r ih =>
    rw [List.nodup_cons] at h
    exact ⟨fun he => h.1 (he ▸ List.mem_cons_self ..), ih h.2⟩

theorem adjDistinct_of_nodup {l : List Nat} (h : l.Nodup) : adjDistinct l := by
  cases l with
  | nil => trivial
  | cons a r => exact seqChain_of_nodup h

/-- if the numbers of a stream are pairwise different, no chunk of a message
    whose chunks are a sub-stream of it is skipped -/
theorem noDrop_of_nodup (m : SMsg) (stream : List Chunk)
    (hsub : stream.filter (fun c => c.req == m.req) = m.chunks)
    (hnd : (stream.map (·.seq)).Nodup) : m.noDrop := by
  right
  apply adjDistinct_of_nodup
  have hsl : List.Sublist (m.chunks.map (·.seq)) (stream.map (·.seq)) := by
    rw [← hsub]
    exact List.Sublist.map _ List.filter_sublist
  exact hnd.sublist hsl

/-! ### a conforming numbering does not repeat a number within a full cycle -/

theorem numbered_tail {a : Nat} {l : List Nat} (h : Numbered (a :: l)) : Numbered l := by
  cases l with
  | nil => trivial
  | cons b r => exact h.2.2

/-- after `k+1` steps from `a` the number is `a+k+1`, or a wrap-around lies in
    between — which costs at least `4294966272 - a + b - 1022` steps -/
theorem numbered_reach {a : Nat} {l : List Nat} (h : Numbered (a :: l)) :
    ∀ (k b : Nat), l[k]? = some b → b = a + (k + 1) ∨ (k + 1) + a + 1022 ≥ 4294966272 + b := by
  induction l generalizing a with
  | nil => intro k b hb; simp at hb
  | cons a' r ih =>
    intro k b hb
    obtain ⟨_, hn, hr⟩ := h
    unfold nextOk at hn
    cases k with
    | zero => simp at hb; omega
    | succ k => have := ih hr k b (by simpa using hb); omega

/-- so a conforming numbering of fewer than 4294965250 chunks never repeats a number
    (4294965249 = 2^32 − 1024 − 1023: a number recurs only after a wrap, and the shortest cycle is the
    climb from 1023, the highest value a wrap may reach, to 2^32 − 1024, the lowest it may start from) -/
theorem numbered_nodup {l : List Nat} (h : Numbered l) (hlen : l.length ≤ 4294965249) : l.Nodup := by
  induction l with
  | nil => exact List.nodup_nil
  | cons a r ih =>
    rw [List.nodup_cons]
    refine ⟨?_, ih (numbered_tail h) (by simp at hlen; omega)⟩
    intro hm
    obtain ⟨k, hk, hget⟩ := List.mem_iff_getElem.mp hm
    have hq : r[k]? = some a := by rw [List.getElem?_eq_getElem hk, hget]
    have := numbered_reach h k a hq
    simp at hlen
    rcases this with t | t <;> omega

end Opcua.Recv.Spec
