import OpcuaModel.Model.CodecLemmas
/-
  `split` (ua/variant.go, model `splitM`) rebuilds a rectangular multi-dimensional array
  from its flattened elements (`leaves`): for a value `v` of shape `ds` (every dimension
  ≥ 1, at least one dimension) `splitM` on the leaves of `v` returns `v`, element-wise
  under any leaf map `f` (the normalisation).  This is `splitM_shaped`.
-/
namespace Opcua.Codec
open Opcua

/-- a value that `(*Variant).encode` hands to `encodeValue` as it is -/
def IsLeafVal : Val → Prop
  | .slice _ _ => False
  | .bytes _ => False
  | _ => True

theorem leaves_of_leaf {v : Val} (h : IsLeafVal v) : leaves v = [v] := by
  unfold leaves
  split
  · exact h.elim
  · rfl

theorem leaves_bytes (b : Option Bytes) : leaves (.bytes b) = [.bytes b] := rfl

theorem leavesL_eq_flatMap : ∀ xs : List Val, leavesL xs = xs.flatMap leaves
  | [] => rfl
  | x :: xs => by rw [leavesL, leavesL_eq_flatMap xs, List.flatMap_cons]

theorem leavesL_eq {xs : List Val} (h : ∀ x ∈ xs, leaves x = [x]) : leavesL xs = xs := by
  induction xs with
  | nil => rfl
  | cons x xs ih =>
    simp only [leavesL, h x (List.mem_cons_self ..), ih (fun y hy => h y (List.mem_cons_of_mem _ hy))]
    rfl

theorem prodNat_eq (ds : List Nat) : prodNat ds = ds.prod := List.prod_eq_foldl.symm

theorem dimsMismatch_eq_false {ds : List Nat} {alen : Nat} :
    dimsMismatch ds alen = false ↔ 0 ≤ toInt32 alen ∧ ds.prod = (toInt32 alen).toNat := by
  simp only [dimsMismatch, ← prodNat_eq, prodNat, decide_eq_false_iff_not, not_or, Int.not_lt, Decidable.not_not]

theorem prod_pos {ds : List Nat} (h : ∀ d ∈ ds, 1 ≤ d) : 1 ≤ ds.prod := by
  induction ds with
  | nil => simp
  | cons d ds ih =>
    have h1 := h d (List.mem_cons_self ..)
    have h2 := ih (fun x hx => h x (List.mem_cons_of_mem _ hx))
    rw [List.prod_cons]
    exact Nat.mul_le_mul h1 h2

/-- `k` rows of width `p` starting at `i`: what the loop of `split` does on a range of exactly `k * p` -/
def rows (f : Nat → Nat → Dec Val) (p : Nat) : Nat → Nat → Dec (List Val)
  | 0, _ => pure []
  | k + 1, i => do
    let e ← f i (i + p)
    let es ← rows f p k (i + p)
    pure (e :: es)

theorem splitLoop_exact {f : Nat → Nat → Dec Val} {p : Nat} (hp : 1 ≤ p) :
    ∀ (fuel k i : Nat), k ≤ fuel → splitLoop f p fuel i (i + k * p) = rows f p k i
  | 0, k, i, hk => by
    have : k = 0 := by omega
    subst this; rfl
  | n + 1, 0, i, _ => by simp [splitLoop, rows]
  | n + 1, k + 1, i, hk => by
    have harith : i + (k + 1) * p = i + p + k * p := by rw [Nat.succ_mul]; omega
    have hlt : i < i + p + k * p := by omega
    rw [harith]
    simp only [splitLoop, hlt, if_true, rows, splitLoop_exact hp n k (i + p) (by omega)]

theorem splitM_exact (env : Env) (vals : List Val) (n : Bool) (d d' : Nat) (ds : List Nat) (i p : Nat)
    (hd : 1 ≤ d) (hp : 1 ≤ p) (hlen : i + d * p ≤ vals.length) :
    splitM env vals n (d :: d' :: ds) i (i + d * p) =
      (do requestAt env .split ((d * p + p - 1) / p)
          let elems ← rows (fun a b => splitM env vals n (d' :: ds) a b) p d i
          if elems.isEmpty then Dec.fail .panicIndex else pure (.slice false elems)) := by
  have hvl : vals.length > 0 := by have := Nat.mul_le_mul hd hp; omega
  have hstep : d * p / d = p := Nat.mul_div_cancel_left _ (by omega)
  have hne : ¬ p = 0 := by omega
  rw [splitM]
  simp only [hvl, if_true, hstep, hne, if_false, Nat.add_sub_cancel_left]
  rw [splitLoop_exact hp (d * p) d i (Nat.le_mul_of_pos_right _ (by omega))]

/-- `vals.Slice(i, j)` on exactly the middle part of `vals` -/
theorem splitLeaf_append (pre xs post : List Val) (n : Bool) (s : St) :
    splitLeaf (pre ++ xs ++ post) n pre.length (pre.length + xs.length) s = .ok (.slice n xs) s := by
  have h1 : ¬ (pre.length + xs.length < pre.length ∨ (pre ++ xs ++ post).length < pre.length + xs.length) := by
    simp only [List.length_append]; omega
  simp only [splitLeaf, h1, if_false, Dec.pure_apply]
  rw [List.append_assoc, List.drop_left, Nat.add_sub_cancel_left, List.take_left]

def Shaped : List Nat → Val → Prop
  | [], v => leaves v = [v]
  | d :: ds, v => ∃ xs, v = .slice false xs ∧ xs.length = d ∧ ∀ x ∈ xs, Shaped ds x

theorem leavesL_cons (x : Val) (xs : List Val) : leavesL (x :: xs) = leaves x ++ leavesL xs := rfl

theorem leaves_slice (n : Bool) (xs : List Val) : leaves (.slice n xs) = leavesL xs := rfl

theorem shaped_leaves_length : ∀ (ds : List Nat) (v : Val), Shaped ds v → (leaves v).length = ds.prod := by
  intro ds
  induction ds with
  | nil => intro v h; simp only [Shaped] at h; simp [h]
  | cons d ds ih =>
    intro v h
    obtain ⟨xs, rfl, hl, hx⟩ := h
    rw [leaves_slice, List.prod_cons, ← hl]
    clear hl
    induction xs with
    | nil => simp [leavesL]
    | cons x xs ihx =>
      rw [leavesL_cons, List.length_append, ih x (hx x (List.mem_cons_self ..)),
        ihx (fun y hy => hx y (List.mem_cons_of_mem _ hy)), List.length_cons, Nat.succ_mul, Nat.add_comm]

theorem wtArr_shaped {leaf : Val → Bool} (hleaf : ∀ x, leaf x = true → leaves x = [x]) :
    ∀ (ds : List Nat) (v : Val), wtArr leaf ds v = true → Shaped ds v ∧ ∀ x ∈ leaves v, leaf x = true := by
  intro ds
  induction ds with
  | nil =>
    intro v h
    simp only [wtArr] at h
    have := hleaf v h
    exact ⟨this, by simp [this, h]⟩
  | cons d ds ih =>
    intro v h
    by_cases hv : ∃ xs, v = .slice false xs
    · obtain ⟨xs, rfl⟩ := hv
      simp only [wtArr, Bool.and_eq_true, decide_eq_true_eq, List.all_eq_true] at h
      refine ⟨⟨xs, rfl, h.1, fun x hx => (ih x (h.2 x hx)).1⟩, ?_⟩
      rw [leaves_slice, leavesL_eq_flatMap]
      intro y hy
      obtain ⟨x, hx, hy⟩ := List.mem_flatMap.mp hy
      exact (ih x (h.2 x hx)).2 y hy
    · rw [wtArr.eq_3 _ _ _ _ fun xs e => hv ⟨xs, e⟩] at h
      cases h

theorem normArr_zero (f : Val → Val) (v : Val) : normArr f 0 v = f v := rfl
theorem normArr_slice (f : Val → Val) (k : Nat) (n : Bool) (xs : List Val) :
    normArr f (k + 1) (.slice n xs) = .slice n (xs.map (normArr f k)) := rfl

/-- the loop of one level over the rows `xs`.  `g` stands for `split` one level down and `hrow` for its correctness on
    one row at any offset (`pre` before it, `post` after it), so that `splitM_shaped` can recurse through this lemma -/
theorem rows_shaped {g : List Val → Nat → Nat → Dec Val} {f : Val → Val} {Q : Val → Prop} {k p : Nat} (s : St)
    (hrow : ∀ (x : Val) (pre post : List Val), Q x →
      g (pre ++ (leaves x).map f ++ post) pre.length (pre.length + p) s = .ok (normArr f k x) s) :
    ∀ (xs : List Val) (pre post : List Val), (∀ x ∈ xs, Q x ∧ (leaves x).length = p) →
      rows (g (pre ++ (leavesL xs).map f ++ post)) p xs.length pre.length s = .ok (xs.map (normArr f k)) s
  | [], _, _, _ => rfl
  | x :: xs, pre, post, hl => by
    have hx := hl x (List.mem_cons_self ..)
    have hvals : pre ++ (leavesL (x :: xs)).map f ++ post
        = pre ++ (leaves x).map f ++ ((leavesL xs).map f ++ post) := by
      simp [leavesL_cons, List.append_assoc]
    have hvals2 : pre ++ (leavesL (x :: xs)).map f ++ post
        = (pre ++ (leaves x).map f) ++ (leavesL xs).map f ++ post := by
      simp [leavesL_cons, List.append_assoc]
    have hpre : (pre ++ (leaves x).map f).length = pre.length + p := by simp [hx.2]
    have := rows_shaped s hrow xs (pre ++ (leaves x).map f) post (fun y hy => hl y (List.mem_cons_of_mem _ hy))
    rw [hpre, ← hvals2, hvals] at this
    rw [hvals]
    simp only [rows, List.length_cons, Dec.bind_apply, List.map_cons, hrow x pre _ hx.1, this, Dec.pure_apply]

theorem splitM_shaped (env : Env) (hlim : env.limit = none) (f : Val → Val) :
    ∀ (ds : List Nat) (v : Val) (pre post : List Val) (s : St), ds ≠ [] → (∀ d ∈ ds, 1 ≤ d) → Shaped ds v →
      splitM env (pre ++ (leaves v).map f ++ post) false ds pre.length (pre.length + ds.prod) s
        = .ok (normArr f ds.length v) s
  | [], _, _, _, _, h, _, _ => absurd rfl h
  | [d], v, pre, post, s, _, _, hsh => by
    -- last level: vals.Slice(i, j); the elements are leaves, and `normArr f 0` is `f`
    obtain ⟨xs, rfl, rfl, hrows⟩ := hsh
    simp only [splitM, List.prod_cons, List.prod_nil, Nat.mul_one, leaves_slice, leavesL_eq hrows, List.length_cons,
      List.length_nil, normArr_slice]
    have := splitLeaf_append pre (xs.map f) post false s
    rw [List.length_map] at this
    exact this
  | d :: d' :: ds', v, pre, post, s, _, hpos, hsh => by
    obtain ⟨xs, rfl, hlen, hrows⟩ := hsh
    have hpos' : ∀ x ∈ d' :: ds', 1 ≤ x := fun x hx => hpos x (List.mem_cons_of_mem _ hx)
    have hall : (leaves (Val.slice false xs)).length = (d :: d' :: ds').prod :=
      shaped_leaves_length _ _ ⟨xs, rfl, hlen, hrows⟩
    have hloop := rows_shaped (g := fun vals a b => splitM env vals false (d' :: ds') a b) (f := f)
      (Q := Shaped (d' :: ds')) (k := (d' :: ds').length) s
      (fun x pre post hx => splitM_shaped env hlim f (d' :: ds') x pre post s (by simp) hpos' hx) xs pre post
      (fun x hx => ⟨hrows x hx, shaped_leaves_length _ x (hrows x hx)⟩)
    rw [List.prod_cons] at hall ⊢
    rw [splitM_exact env _ false d d' ds' pre.length _ (hpos d (List.mem_cons_self ..)) (prod_pos hpos')
      (by simp only [List.length_append, List.length_map, hall]; omega)]
    rw [hlen] at hloop
    simp only [Dec.bind_apply, requestAt_none hlim, leaves_slice, hloop, List.length_cons, normArr_slice]
    cases xs with
    | nil => simp at hlen; have := hpos d (List.mem_cons_self ..); omega
    | cons x xs => rfl

end Opcua.Codec
