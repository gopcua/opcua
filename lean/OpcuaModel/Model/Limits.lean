import OpcuaModel.Model.SecureLenLemmas
import OpcuaModel.Gen.MaxBody
import OpcuaModel.Gen.Policies
import OpcuaModel.Gen.UacpDefaults
/-
  Model of how gopcua negotiates and then uses the UA-TCP transport limits
  (C06): `Conn.Handshake` / `Conn.srvhandshake` (uacp/conn.go), the chunk size
  chosen by `SetMaximumBodySize(int(s.c.SendBufSize()))`, `Message.EncodeChunks`
  (uasc/message.go), the send paths `sendAsyncWithTimeout` /
  `writeMessageChunks` and the receive-side checks in `Conn.Receive` and
  `SecureChannel.Receive` (uasc/secure_channel.go).  Code as it is, defects
  included (the zero-limit defect of the receive path is repaired: C06.zero-limit-server in
  KNOWN_FINDINGS.txt); the specification's reading of the same numbers is in the section
  "specification side" below.
-/
namespace Opcua.Limits
open Opcua

/-- the four limits of a Hello / Acknowledge (`uacp.Acknowledge`), uint32 each -/
structure Ack where
  rcv : Nat
  snd : Nat
  maxMsg : Nat
  maxChunks : Nat
  deriving DecidableEq, Repr

/-- smallest buffer size the protocol allows (`minBufSize` in uacp/conn.go, Part 6 §7.1.2.3/4) -/
def minBufSize : Nat := 8192

/-- `Conn.Handshake`, case "ACKF", first check: an Acknowledge whose receive or send buffer is below
    the protocol minimum is refused (ERR sent, error returned, the connection is not used) -/
def handshakeAccepts (ack : Ack) : Bool := decide (minBufSize ≤ ack.rcv ∧ minBufSize ≤ ack.snd)

/-- `Conn.Handshake`, case "ACKF": the decoded Acknowledge becomes `c.ack`, with its
    ReceiveBufSize bounded by the receive buffer of the client's own Hello when that is non-zero
    (what `Receive` allocates per frame) and zero MaxChunkCount / MaxMessageSize replaced by the
    package defaults -/
def clientAdopt (hello ack : Ack) : Ack :=
  { ack with
    rcv := if hello.rcv ≠ 0 ∧ ack.rcv > hello.rcv then hello.rcv else ack.rcv
    maxChunks := if ack.maxChunks = 0 then Gen.defaultMaxChunkCount else ack.maxChunks
    maxMsg := if ack.maxMsg = 0 then Gen.defaultMaxMessageSize else ack.maxMsg }

/-- the `ack` each `uacp.Conn` works with after the HEL/ACK exchange -/
structure Views where
  client : Ack
  server : Ack
  deriving DecidableEq, Repr

/-- client configured with `hello` (`Dialer.ClientACK`), server with `ack`
    (`uacp.Listen(…, ack)`).  The client replaces its values by the server's
    Acknowledge (only its receive buffer is bounded by its own Hello); `srvhandshake`
    decodes the Hello and uses none of its limit fields, the server keeps `l.ack`. -/
def negotiate (hello : Ack) (ack : Ack) : Views :=
  { client := clientAdopt hello ack, server := ack }

/-! ### sending -/

/-- `instance.SetMaximumBodySize(int(s.c.SendBufSize()))`, then `maxBodySize` as uint32 -/
def maxBodyOf (a : AlgoParams) (v : Ack) : Nat := (Gen.setMaximumBodySize a (v.snd : Int)).toNat

/-- `Message.EncodeChunks(maxBodySize)`: body bytes per chunk for a message body
    of `n` bytes: `n / maxBody` full intermediate chunks and one final chunk with
    the rest (possibly empty) -/
def chunkBodies (maxBody n : Nat) : List Nat :=
  let mb := if maxBody = 0 then 4096 else maxBody
  List.replicate (n / mb) mb ++ [n % mb]

/-- bytes on the wire of the chunk carrying `body` bytes (`signAndEncrypt`, Model/SecureLen) -/
def wireLen (a : AlgoParams) (m : Mode) (body : Nat) : Int :=
  (secureLen a m (rawLenOfBody (body : Int))).chunkLen

/-- the chunks one side with connection limits `v` writes for a message body of `n` bytes -/
def wireChunks (a : AlgoParams) (m : Mode) (v : Ack) (n : Nat) : List Int :=
  (chunkBodies (maxBodyOf a v) n).map (wireLen a m)

inductive SendResult where
  | sent (wire : List Int)
  | refused
  deriving DecidableEq, Repr

/-- `sendAsyncWithTimeout` (client) and `writeMessageChunks` (server): encode, then
    write every chunk.  Neither consults MaxMessageSize / MaxChunkCount (the TODO in
    `writeMessageChunks`), and `Conn.Send`'s size check is not on this path
    (`s.c.Write`), so nothing is ever refused. -/
def send (a : AlgoParams) (m : Mode) (v : Ack) (n : Nat) : SendResult :=
  .sent (wireChunks a m v n)

/-! ### receiving -/

inductive Verdict where
  | ok
  /-- `Conn.Receive`: "uacp: message too large" (surfaces as io.EOF from `readChunk`) -/
  | chunkTooLarge
  /-- `SecureChannel.Receive`: "too many chunks: n > MaxChunkCount" -/
  | tooManyChunks
  /-- `SecureChannel.Receive`: "message too large: len > MaxMessageSize" -/
  | messageTooLarge
  deriving DecidableEq, Repr

/-- the receive loop over the chunks `(wire length, body length)` of one message,
    the last one final; `held` intermediate chunks stored so far, `sum` their body bytes.
    Chunk size against `ReceiveBufSize` first (`Conn.Receive`), then for an
    intermediate chunk `MaxChunkCount != 0 && len(s.chunks[reqID]) > MaxChunkCount` after
    appending, for the final chunk `MaxMessageSize != 0 && len(merged) > MaxMessageSize`
    (0 = no limit, Part 6 §7.1.2.3/4).  The final chunk is not counted. -/
def recvLoop (v : Ack) : List (Int × Nat) → Nat → Nat → Verdict
  | [], _, _ => .ok
  | [(w, b)], _, sum =>
    if w > (v.rcv : Int) then .chunkTooLarge
    else if v.maxMsg ≠ 0 ∧ sum + b > v.maxMsg then .messageTooLarge
    else .ok
  | (w, _b) :: rest, held, sum =>
    if w > (v.rcv : Int) then .chunkTooLarge
    else if v.maxChunks ≠ 0 ∧ held + 1 > v.maxChunks then .tooManyChunks
    else recvLoop v rest (held + 1) (sum + _b)

/-- a side with connection limits `v` receives a message cut into `bodies` -/
def receive (a : AlgoParams) (m : Mode) (v : Ack) (bodies : List Nat) : Verdict :=
  recvLoop v (bodies.map fun b => (wireLen a m b, b)) 0 0

/-- one message of `n` body bytes from a side with limits `sv` to a side with limits `rv` -/
def transfer (a : AlgoParams) (m : Mode) (sv rv : Ack) (n : Nat) : List Int × Verdict :=
  (wireChunks a m sv n, receive a m rv (chunkBodies (maxBodyOf a sv) n))

/-! ### OpenSecureChannel under the None policy (what the correspondence run opens) -/

/-- body bytes of the OpenSecureChannel request gopcua writes under policy None (measured on the encoder:
    `opnReqBody` of the None row of `Gen.interopPolicies`) -/
def opnRequestBody : Nat := 53
/-- … and of the response (`opnRespBody` of the same row) -/
def opnResponseBody : Nat := 56
/-- message header, asymmetric security header of policy None (59 = 4 + the 47 bytes of its URI, no certificate: 4,
    no thumbprint: 4), sequence header -/
def opnHeaders : Nat := 12 + 59 + 8

inductive OpenResult where
  | ok
  | refusedByServer (v : Verdict) (wire body : Nat)
  | refusedByClient (v : Verdict) (wire body : Nat)
  deriving DecidableEq, Repr

/-- the OPN request is a one-chunk message for the server's receive loop, the response one for the client's -/
def openChannel (vs : Views) : OpenResult :=
  match recvLoop vs.server [((opnHeaders + opnRequestBody : Nat), opnRequestBody)] 0 0 with
  | .ok =>
    match recvLoop vs.client [((opnHeaders + opnResponseBody : Nat), opnResponseBody)] 0 0 with
    | .ok => .ok
    | v => .refusedByClient v (opnHeaders + opnResponseBody) opnResponseBody
  | v => .refusedByServer v (opnHeaders + opnRequestBody) opnRequestBody

/-! ### specification side (OPC UA Part 6 §7.1.2.3/4) -/

inductive Side where
  | client | server
  deriving DecidableEq, Repr

def Side.peer : Side → Side
  | .client => .server
  | .server => .client

/-- what a side advertised: the client its Hello, the server its Acknowledge -/
def advertised (hello ack : Ack) : Side → Ack
  | .client => hello
  | .server => ack

/-- the limits a side's `uacp.Conn` ends up with -/
def viewOf (hello ack : Ack) : Side → Ack
  | .client => (negotiate hello ack).client
  | .server => (negotiate hello ack).server

/-- the largest chunk a sender may put on the wire: not more than it announced to
    send, not more than the receiver announced to take -/
def maySend (advSender advReceiver : Ack) : Nat := min advSender.snd advReceiver.rcv

/-- the message is over a limit the receiver advertised (0 = no limit) -/
def exceeds (adv : Ack) (n chunks : Nat) : Prop :=
  (adv.maxMsg ≠ 0 ∧ n > adv.maxMsg) ∨ (adv.maxChunks ≠ 0 ∧ chunks > adv.maxChunks)

instance (adv : Ack) (n chunks : Nat) : Decidable (exceeds adv n chunks) := by
  unfold exceeds; infer_instance

/-- number of chunks the sender cuts the message into -/
def chunkCount (a : AlgoParams) (v : Ack) (n : Nat) : Nat := (chunkBodies (maxBodyOf a v) n).length

/-- C06 for one message of `n` body bytes sent by `sender`, clause by clause -/
structure Honoured (hello ack : Ack) (a : AlgoParams) (m : Mode) (sender : Side) (n : Nat) : Prop where
  /-- (1) no chunk larger than the receive buffer the other side advertised -/
  chunkFits : ∀ w ∈ wireChunks a m (viewOf hello ack sender) n, w ≤ ((advertised hello ack sender.peer).rcv : Int)
  /-- (2) the receiver's chunk-size check passes for every size the sender may use -/
  accepts : ∀ w : Nat, w ≤ maySend (advertised hello ack sender) (advertised hello ack sender.peer) →
      w ≤ (viewOf hello ack sender.peer).rcv
  /-- (3) a message over the receiver's advertised limits is refused by the sender -/
  refuses : exceeds (advertised hello ack sender.peer) n (chunkCount a (viewOf hello ack sender) n) →
      send a m (viewOf hello ack sender) n = .refused

/-- (2', limits read as the specification does) a message that stays within what the
    receiver advertised, in chunks the sender may use, is accepted -/
def LegalAccepted (hello ack : Ack) (a : AlgoParams) (m : Mode) (sender : Side) (n : Nat) : Prop :=
  (∀ w ∈ wireChunks a m (viewOf hello ack sender) n,
      w ≤ (maySend (advertised hello ack sender) (advertised hello ack sender.peer) : Int)) →
  ¬ exceeds (advertised hello ack sender.peer) n (chunkCount a (viewOf hello ack sender) n) →
  receive a m (viewOf hello ack sender.peer) (chunkBodies (maxBodyOf a (viewOf hello ack sender)) n) = .ok

/-- the domain of the property: buffers from the protocol minimum up, uint32 -/
def inDomain (x : Ack) : Prop := 8192 ≤ x.rcv ∧ x.rcv < 4294967296 ∧ 8192 ≤ x.snd ∧ x.snd < 4294967296

instance (x : Ack) : Decidable (inDomain x) := by unfold inDomain; infer_instance

/-- `uacp.DefaultClientACK` / `uacp.DefaultServerACK`, regenerated -/
def defaultClientAck : Ack :=
  ⟨Gen.clientACKReceiveBufSize, Gen.clientACKSendBufSize, Gen.clientACKMaxMessageSize, Gen.clientACKMaxChunkCount⟩
def defaultServerAck : Ack :=
  ⟨Gen.serverACKReceiveBufSize, Gen.serverACKSendBufSize, Gen.serverACKMaxMessageSize, Gen.serverACKMaxChunkCount⟩

/-- one observed handshake (hello 4, ack 4, client Conn 4, server Conn 4) is what `negotiate` computes -/
def rowAgrees : List Nat → Bool
  | [h1, h2, h3, h4, a1, a2, a3, a4, c1, c2, c3, c4, s1, s2, s3, s4] =>
    decide (negotiate ⟨h1, h2, h3, h4⟩ ⟨a1, a2, a3, a4⟩ = ⟨⟨c1, c2, c3, c4⟩, ⟨s1, s2, s3, s4⟩⟩)
  | _ => false

@[simp] theorem clientAdopt_snd (hello ack : Ack) : (clientAdopt hello ack).snd = ack.snd := rfl
theorem clientAdopt_maxMsg (hello ack : Ack) :
    (clientAdopt hello ack).maxMsg = if ack.maxMsg = 0 then Gen.defaultMaxMessageSize else ack.maxMsg := rfl
theorem clientAdopt_maxChunks (hello ack : Ack) :
    (clientAdopt hello ack).maxChunks = if ack.maxChunks = 0 then Gen.defaultMaxChunkCount else ack.maxChunks := rfl
/-- the client's receive limit: its own Hello value when that is non-zero and smaller, else the Acknowledge's -/
theorem clientAdopt_rcv (hello ack : Ack) :
    ((clientAdopt hello ack).rcv = hello.rcv ∧ hello.rcv ≠ 0 ∧ hello.rcv < ack.rcv) ∨
    ((clientAdopt hello ack).rcv = ack.rcv ∧ (hello.rcv = 0 ∨ ack.rcv ≤ hello.rcv)) := by
  unfold clientAdopt
  by_cases h : hello.rcv ≠ 0 ∧ ack.rcv > hello.rcv
  · left; simp [h]
  · right; simp [h]; omega

/-- both sides cut their messages by the server's send buffer -/
@[simp] theorem viewOf_snd (hello ack : Ack) (s : Side) : (viewOf hello ack s).snd = ack.snd := by
  cases s <;> rfl

@[simp] theorem wireChunks_viewOf (a : AlgoParams) (m : Mode) (hello ack : Ack) (s : Side) (n : Nat) :
    wireChunks a m (viewOf hello ack s) n = wireChunks a m ack n := by
  simp only [wireChunks, maxBodyOf, viewOf_snd]

/-- the client's chunk-size check admits every chunk the server may send iff the server's own
    receive buffer would -/
theorem maySend_le_client_rcv (hello ack : Ack) :
    maySend ack hello ≤ (viewOf hello ack .client).rcv ↔ maySend ack hello ≤ ack.rcv := by
  show _ ≤ (clientAdopt hello ack).rcv ↔ _
  rcases clientAdopt_rcv hello ack with ⟨e, _, hlt⟩ | ⟨e, _⟩ <;> rw [e]
  exact ⟨fun _ => Nat.le_trans (Nat.min_le_right _ _) (Nat.le_of_lt hlt), fun _ => Nat.min_le_right _ _⟩

theorem chunkBodies_of_pos {mb : Nat} (h : 0 < mb) (n : Nat) :
    chunkBodies mb n = List.replicate (n / mb) mb ++ [n % mb] := by
  simp only [chunkBodies, Nat.ne_of_gt h, if_false]

theorem mem_chunkBodies {mb n b : Nat} (h : b ∈ chunkBodies mb n) (hmb : 0 < mb) : b ≤ mb := by
  simp only [chunkBodies_of_pos hmb, List.mem_append, List.mem_replicate, List.mem_singleton] at h
  rcases h with ⟨_, rfl⟩ | rfl
  · exact Nat.le_refl _
  · exact Nat.le_of_lt (Nat.mod_lt _ hmb)

/-- `EncodeChunks` loses no byte -/
theorem chunkBodies_sum (mb n : Nat) : (chunkBodies mb n).sum = n := by
  simp only [chunkBodies, List.sum_append, List.sum_replicate_nat, List.sum_cons, List.sum_nil]
  have := Nat.div_add_mod n (if mb = 0 then 4096 else mb)
  rw [Nat.mul_comm] at this
  omega

theorem maxBodyOf_none (v : Ack) (h : 26 ≤ v.snd) (h2 : v.snd < 4294967296) :
    maxBodyOf Gen.symNone v = v.snd - 25 := by
  have e := setMaximumBodySize_eq (a := Gen.symNone) (cs := v.snd) ⟨by decide, rfl, by decide, by decide⟩
    (by simp only [Gen.symNone]; omega) (by omega)
  simp only [Gen.symNone, blockFloor, Int.emod_one] at e
  rw [maxBodyOf, Gen.symNone, e]; omega

theorem wireLen_none (b : Nat) : wireLen Gen.symNone .none b = (b : Int) + 24 := by
  rw [wireLen, secureLen_none]; exact Int.add_comm _ _

/-- the verdict of the receive loop when every chunk passes the size check (a non-empty message, `held` within a
    non-zero MaxChunkCount): the count is tested first — `held` + all chunks but the final one against
    MaxChunkCount — then the body bytes against MaxMessageSize; 0 = no limit -/
theorem recvLoop_of_fit (rv : Ack) (cs : List (Int × Nat)) (held sum : Nat) (hne : cs ≠ [])
    (hfit : ∀ c ∈ cs, c.1 ≤ (rv.rcv : Int)) (hheld : rv.maxChunks ≠ 0 → held ≤ rv.maxChunks) :
    recvLoop rv cs held sum =
      if rv.maxChunks ≠ 0 ∧ held + cs.length > rv.maxChunks + 1 then .tooManyChunks
      else if rv.maxMsg ≠ 0 ∧ sum + (cs.map (·.2)).sum > rv.maxMsg then .messageTooLarge
      else .ok := by
  fun_induction recvLoop rv cs held sum with
  | case1 => exact absurd rfl hne
  | case2 w b _ _ h | case5 w b _ _ _ _ h => exact absurd (hfit (w, b) List.mem_cons_self) (by omega)
  | case3 w b held sum _ h => rw [if_neg (by simp; omega), if_pos (by simpa using h)]
  | case4 w b held sum _ h => rw [if_neg (by simp; omega), if_neg (by simpa using h)]
  | case6 w b rest held sum hr _ h =>
    have := List.length_pos_iff.2 hr
    rw [if_pos ⟨h.1, by simp; omega⟩]
  | case7 w b rest held sum hr _ h ih =>
    have := List.length_pos_iff.2 hr
    rw [ih hr (fun c hc => hfit c (List.mem_cons_of_mem _ hc)) (by omega)]
    simp only [List.length_cons, List.map_cons, List.sum_cons, Nat.add_assoc, Nat.add_comm 1]

theorem receive_of_fit (a : AlgoParams) (m : Mode) (rv : Ack) (bodies : List Nat)
    (hfit : ∀ b ∈ bodies, wireLen a m b ≤ (rv.rcv : Int)) :
    receive a m rv bodies =
      if rv.maxChunks ≠ 0 ∧ bodies.length > rv.maxChunks + 1 then .tooManyChunks
      else if rv.maxMsg ≠ 0 ∧ bodies.sum > rv.maxMsg then .messageTooLarge
      else .ok := by
  by_cases hne : bodies = []
  · subst hne; simp [receive, recvLoop]
  · have := recvLoop_of_fit rv (bodies.map fun b => (wireLen a m b, b)) 0 0 (by simpa using hne)
      (List.forall_mem_map.2 hfit) (fun _ => Nat.zero_le _)
    simpa [receive, Function.comp_def] using this

theorem receive_ok (a : AlgoParams) (m : Mode) (rv : Ack) (bodies : List Nat)
    (hfit : ∀ b ∈ bodies, wireLen a m b ≤ (rv.rcv : Int))
    (hcnt : rv.maxChunks ≠ 0 → bodies.length ≤ rv.maxChunks + 1)
    (hsum : rv.maxMsg ≠ 0 → bodies.sum ≤ rv.maxMsg) :
    receive a m rv bodies = .ok := by
  rw [receive_of_fit a m rv bodies hfit, if_neg fun h => Nat.not_lt.2 (hcnt h.1) h.2,
    if_neg fun h => Nat.not_lt.2 (hsum h.1) h.2]

/-- a receiver whose working limits `rv` are at least as permissive as the limits `adv` it advertised
    (room for every chunk up to `cap` bytes; each limit it applies is not below a non-zero advertised
    one) accepts every message within `adv` that arrives in chunks of at most `cap` bytes -/
theorem receive_chunkBodies_ok (a : AlgoParams) (m : Mode) {rv adv : Ack} {cap mb n : Nat}
    (hrcv : cap ≤ rv.rcv)
    (hmsg : rv.maxMsg ≠ 0 → adv.maxMsg ≠ 0 ∧ adv.maxMsg ≤ rv.maxMsg)
    (hcnt : rv.maxChunks ≠ 0 → adv.maxChunks ≠ 0 ∧ adv.maxChunks ≤ rv.maxChunks)
    (hw : ∀ b ∈ chunkBodies mb n, wireLen a m b ≤ (cap : Int))
    (hex : ¬ exceeds adv n (chunkBodies mb n).length) :
    receive a m rv (chunkBodies mb n) = .ok := by
  simp only [exceeds] at hex
  refine receive_ok a m rv _ (fun b hb => Int.le_trans (hw b hb) (by omega)) (fun h0 => ?_) (fun h0 => ?_)
  · have := hcnt h0; omega
  · have := hmsg h0; rw [chunkBodies_sum]; omega

end Opcua.Limits
