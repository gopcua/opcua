import OpcuaModel.Gen.ReqID
/-
  C18 — the handler table of the client secure channel as a labelled
  transition system.

  One label per critical section / channel operation of
  `uasc/secure_channel.go` (granularity justified by `Gen.SendFacts`: every
  access of `handlers` happens under `handlersMu`, of `requestID` under
  `requestIDMu`):

    nextId k v     `nextRequestID()` evaluated for caller k, result v
    setCounter n   the counter is moved (stands for any number of calls in between;
                   the harness uses it to provoke a wrap-around collision)
    register k ok  the `handlersMu` section of `sendAsyncWithTimeout`
                   (ok = false: "duplicate handler registration" error)
    pop id hit     dispatcher: a message with request id `id` arrived, `popHandler(id)`
    deliver        dispatcher: `select { case ch <- msg: default: }`
    recv k         caller: `case msg := <-ch`
    abandon k hit  caller: timer / ctx.Done / disconnected branch: `popHandler(reqID)`
                   (also: `sendAsyncWithTimeout` failed after the registration — its deferred
                   `popHandler(reqID)` releases the slot before the error is returned)

  Callers are numbered; there is no bound on their number (functions on Nat).
-/
namespace Opcua.SendHandlers

def upd {α : Type} (f : Nat → α) (k : Nat) (v : α) : Nat → α := fun j => if j = k then v else f j

@[simp, grind =] theorem upd_apply {α : Type} (f : Nat → α) (k : Nat) (v : α) (j : Nat) :
    upd f k v j = if j = k then v else f j := rfl

/-- a response as it arrives at the dispatcher: the request id it carries and
    its arrival number (assigned by the model, identifies the message instance) -/
structure Msg where
  id : Nat
  serial : Nat
  deriving DecidableEq, Repr

/-- control state of one caller of `SendRequestWithTimeout` -/
inductive CS where
  | idle
  /-- `nextRequestID()` has returned `id` -/
  | hasId (id : Nat)
  /-- handler registered, waiting in the select -/
  | registered (id : Nat)
  /-- returned with the response `m` taken from its channel -/
  | got (id : Nat) (m : Msg)
  /-- returned with the "duplicate handler registration" error: `id` was still pending -/
  | dup (id : Nat)
  /-- left the select without a response (timer, context, disconnect, failed send) after `popHandler(id)` -/
  | abandoned (id : Nat)
  deriving DecidableEq, Repr

structure St where
  /-- `SecureChannel.requestID` -/
  counter : Int
  /-- `SecureChannel.handlers`: request id ↦ the caller whose channel is registered -/
  handlers : Nat → Option Nat
  /-- the capacity-1 channel created by caller k's registration -/
  box : Nat → Option Msg
  cs : Nat → CS
  /-- the dispatcher between `popHandler` and the channel send -/
  disp : Option (Nat × Msg)
  /-- number of messages that arrived so far -/
  inCount : Nat
  /-- ghost: arrival number ↦ caller whose handler was popped for it -/
  owner : Nat → Option Nat
  /-- ghost: (caller, message) in the order the callers took them -/
  delivered : List (Nat × Msg)
  /-- ghost: messages without handler (unsolicited, duplicate, late) -/
  dropped : Nat
  /-- ghost: times the `default:` branch of the dispatcher's send was taken -/
  full : Nat

def init (c : Nat) : St :=
  { counter := c, handlers := fun _ => none, box := fun _ => none, cs := fun _ => .idle,
    disp := none, inCount := 0, owner := fun _ => none, delivered := [], dropped := 0, full := 0 }

inductive Label where
  | setCounter (n : Nat)
  | nextId (k : Nat) (v : Nat)
  | register (k : Nat) (ok : Bool)
  | pop (id : Nat) (hit : Bool)
  | deliver
  | recv (k : Nat)
  | abandon (k : Nat) (hit : Bool)
  deriving DecidableEq, Repr

/-- The transition function.  A label carries the outcome the implementation
    reported (`ok`, `hit`, the id value); a label whose outcome differs from the
    one the model computes is not enabled. -/
def step? (s : St) : Label → Option St
  | .setCounter n => if n < 4294967296 then some { s with counter := n } else none
  | .nextId k v =>
    match s.cs k with
    | .idle =>
      if (Gen.nextRequestID s.counter).2 = (v : Int) then
        some { s with counter := (Gen.nextRequestID s.counter).1, cs := upd s.cs k (.hasId v) }
      else none
    | _ => none
  | .register k ok =>
    match s.cs k with
    | .hasId id =>
      match s.handlers id with
      | some _ => if ok then none else some { s with cs := upd s.cs k (.dup id) }
      | none =>
        if ok then
          some { s with handlers := upd s.handlers id (some k), box := upd s.box k none,
                        cs := upd s.cs k (.registered id) }
        else none
    | _ => none
  | .pop id hit =>
    match s.disp with
    | some _ => none
    | none =>
      match s.handlers id with
      | some k =>
        if hit then
          some { s with handlers := upd s.handlers id none, disp := some (k, ⟨id, s.inCount⟩),
                        owner := upd s.owner s.inCount (some k), inCount := s.inCount + 1 }
        else none
      | none => if hit then none else some { s with inCount := s.inCount + 1, dropped := s.dropped + 1 }
  | .deliver =>
    match s.disp with
    | some (k, m) =>
      match s.box k with
      | none => some { s with box := upd s.box k (some m), disp := none }
      | some _ => some { s with disp := none, full := s.full + 1 }
    | none => none
  | .recv k =>
    match s.cs k, s.box k with
    | .registered id, some m =>
      some { s with cs := upd s.cs k (.got id m), box := upd s.box k none, delivered := (k, m) :: s.delivered }
    | _, _ => none
  | .abandon k hit =>
    match s.cs k with
    | .registered id =>
      match s.handlers id with
      | some _ =>
        if hit then some { s with handlers := upd s.handlers id none, cs := upd s.cs k (.abandoned id) } else none
      | none => if hit then none else some { s with cs := upd s.cs k (.abandoned id) }
    | _ => none

/-- states reachable from an initial state with any counter seed, by any
    number of steps of any number of callers -/
inductive Reachable : St → Prop where
  | init (c : Nat) (h : c < 4294967296) : Reachable (init c)
  | step {s s' : St} (l : Label) : Reachable s → step? s l = some s' → Reachable s'

def run? (s : St) : List Label → Option St
  | [] => some s
  | l :: ls => match step? s l with
    | some s' => run? s' ls
    | none => none

theorem reachable_run {s s' : St} (tr : List Label) (h : Reachable s) (hr : run? s tr = some s') : Reachable s' := by
  induction tr generalizing s with
  | nil => exact Option.some.inj hr ▸ h
  | cons l ls ih =>
    cases h1 : step? s l with
    | none => simp [run?, h1] at hr
    | some s1 => exact ih (.step l h h1) (by simpa [run?, h1] using hr)

/-- `step?` as a relation, one rule per label and outcome: when it is enabled and the state it leads to -/
inductive Step (s : St) : Label → St → Prop
  | setCounter (n : Nat) : n < 4294967296 → Step s (.setCounter n) { s with counter := n }
  | nextId (k v : Nat) : s.cs k = .idle → (Gen.nextRequestID s.counter).2 = (v : Int) →
      Step s (.nextId k v) { s with counter := (Gen.nextRequestID s.counter).1, cs := upd s.cs k (.hasId v) }
  | registerDup (k id : Nat) : s.cs k = .hasId id → s.handlers id ≠ none →
      Step s (.register k false) { s with cs := upd s.cs k (.dup id) }
  | register (k id : Nat) : s.cs k = .hasId id → s.handlers id = none →
      Step s (.register k true) { s with
        handlers := upd s.handlers id (some k), box := upd s.box k none, cs := upd s.cs k (.registered id) }
  | pop (id k : Nat) : s.disp = none → s.handlers id = some k →
      Step s (.pop id true) { s with
        handlers := upd s.handlers id none, disp := some (k, ⟨id, s.inCount⟩)
        owner := upd s.owner s.inCount (some k), inCount := s.inCount + 1 }
  | popMiss (id : Nat) : s.disp = none → s.handlers id = none →
      Step s (.pop id false) { s with inCount := s.inCount + 1, dropped := s.dropped + 1 }
  | deliver (k : Nat) (m : Msg) : s.disp = some (k, m) → s.box k = none →
      Step s .deliver { s with box := upd s.box k (some m), disp := none }
  | deliverFull (k : Nat) (m : Msg) : s.disp = some (k, m) → s.box k ≠ none →
      Step s .deliver { s with disp := none, full := s.full + 1 }
  | recv (k id : Nat) (m : Msg) : s.cs k = .registered id → s.box k = some m →
      Step s (.recv k) { s with
        cs := upd s.cs k (.got id m), box := upd s.box k none, delivered := (k, m) :: s.delivered }
  | abandon (k id : Nat) : s.cs k = .registered id → s.handlers id ≠ none →
      Step s (.abandon k true) { s with handlers := upd s.handlers id none, cs := upd s.cs k (.abandoned id) }
  | abandonMiss (k id : Nat) : s.cs k = .registered id → s.handlers id = none →
      Step s (.abandon k false) { s with cs := upd s.cs k (.abandoned id) }

attribute [local grind intro] Step

theorem Step.of {s s' : St} {l : Label} (h : step? s l = some s') : Step s l s' := by
  cases l <;> simp only [step?] at h <;> grind

/-- a handler, a channel and a message in flight always belong to the caller that registered the
    message's id; a caller's channel is never sent into twice -/
structure Inv (s : St) : Prop where
  /-- a handler in the table belongs to a caller that waits in its select for that id … -/
  hReg : ∀ id k, s.handlers id = some k → s.cs k = .registered id
  /-- … and whose channel is empty: a response is sent only after the handler is popped -/
  hBox : ∀ id k, s.handlers id = some k → s.box k = none
  /-- a message in `k`'s channel carries the id `k` registered and is the arrival that was popped for `k` -/
  boxOwn : ∀ k m, s.box k = some m →
    (s.cs k = .registered m.id ∨ s.cs k = .abandoned m.id) ∧
    s.owner m.serial = some k ∧ m.serial < s.inCount
  /-- the same for the message the dispatcher holds between `popHandler` and the send; `k`'s channel is
      empty and `k` has no handler left, so nothing else can get into the channel first -/
  dispOwn : ∀ k m, s.disp = some (k, m) →
    (s.cs k = .registered m.id ∨ s.cs k = .abandoned m.id) ∧ s.box k = none ∧
    (∀ id', s.handlers id' ≠ some k) ∧ s.owner m.serial = some k ∧ m.serial < s.inCount
  /-- what a caller took is what it returned with; it carries its id and was popped for it -/
  dlv : ∀ k m, (k, m) ∈ s.delivered → s.cs k = .got m.id m ∧ s.owner m.serial = some k ∧ m.serial < s.inCount
  /-- arrival numbers not given out yet have no owner -/
  own : ∀ n, s.inCount ≤ n → s.owner n = none
  /-- a caller takes at most one response -/
  nodup : (s.delivered.map (·.1)).Nodup
  /-- the `default:` branch of the dispatcher's send was never taken -/
  neverFull : s.full = 0

theorem inv_init (c : Nat) : Inv (init c) := by
  constructor <;> simp [init]

theorem inv_step {s s' : St} {l : Label} (hi : Inv s) (h : step? s l = some s') : Inv s' := by
  have hst := Step.of h
  clear h
  cases hst with
  | setCounter => exact { hi with }
  | nextId k _ hc | registerDup k _ hc | abandonMiss k _ hc =>
    exact { hi with
      hReg := by have := hi.hReg; grind
      boxOwn := by have := hi.boxOwn; grind
      dispOwn := by have := hi.dispOwn; grind
      dlv := by have := hi.dlv; grind }
  | register k id hc hh | abandon k id hc hh =>
    exact { hi with
      hReg := by have := hi.hReg; grind
      hBox := by have := hi.hBox; grind
      boxOwn := by have := hi.boxOwn; grind
      dispOwn := by have := hi.dispOwn; grind
      dlv := by have := hi.dlv; grind }
  | pop id k hd hh =>
    exact { hi with
      hReg := by have := hi.hReg; grind
      hBox := by have := hi.hBox; grind
      boxOwn := by have := hi.boxOwn; grind
      dispOwn := by have := hi.hReg; have := hi.hBox; grind
      dlv := by have := hi.dlv; grind
      own := by have := hi.own; grind }
  | popMiss id hd hh =>
    exact { hi with
      boxOwn := by have := hi.boxOwn; grind
      dispOwn := fun _ _ e => nomatch hd.symm.trans e
      dlv := by have := hi.dlv; grind
      own := by have := hi.own; grind }
  | deliver k m hd hb =>
    have hk := hi.dispOwn k m hd
    exact { hi with
      hBox := by have := hi.hBox; grind
      boxOwn := by have := hi.boxOwn; grind
      dispOwn := nofun }
  | deliverFull k m hd hb => exact absurd (hi.dispOwn k m hd).2.1 hb
  | recv k id m hc hb =>
    have hk := hi.boxOwn k m hb
    exact { hi with
      hReg := by have := hi.hReg; have := hi.hBox; grind
      hBox := by have := hi.hBox; grind
      boxOwn := by have := hi.boxOwn; grind
      dispOwn := by have := hi.dispOwn; grind
      dlv := by have := hi.dlv; grind
      nodup := by have := hi.dlv; have := hi.nodup; grind }

theorem reachable_inv {s : St} (h : Reachable s) : Inv s := by
  induction h with
  | init c _ => exact inv_init c
  | step l _ hs ih => exact inv_step ih hs

/-- `safeAssign(t, ptrT)` of client.go on type tags: the result variable is
    written iff the dynamic type of the response is the expected one -/
def safeAssign (got want : Nat) (old : Option Nat) : Bool × Option Nat :=
  if got = want then (true, some got) else (false, old)

end Opcua.SendHandlers
