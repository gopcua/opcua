import OpcuaModel.Model.LinearApp
import OpcuaModel.Gen.Dispatch
/-
  C34 — concurrent reads and writes of node values are linearizable.

  The server executes every request in ONE goroutine: `monitorConnections`
  takes a message from the channel all connections feed and calls
  `handleService` synchronously; the Read / Write handlers and everything they
  reach start no goroutine.  These structural facts are extracted from the
  source with go/ast on every run (`Gen/Dispatch.lean`, `C34_facts`).  Under
  them a request history is a well-formed trace of the machine `Linear.mrun`
  (invocation, atomic dispatcher step, response), and for every such trace the
  dispatch order is a linearization (`C34_linearizable`).  `C34_step_refines`
  shows that the handler of the attribute service (the C31 model) refines one
  register per node, successful Value reads/writes being the register
  operations and everything else leaving the registers alone; so the dispatch
  log restricted to successful operations is a legal register history
  (`C34_register_history`).  The correspondence run checks on real concurrent
  clients that the hooked dispatcher order is such a linearization.

  The embedding application (part 3, `Model/LinearApp.lean`): the node value has no
  lock (the generated `Gen.nodeMethodLockOps` is 0; no theorem uses it); mutual exclusion of client requests comes
  from the dispatcher only, and application code runs outside it.  Application
  steps that touch only the value word of a node (`node.SetAttribute(Value, …)`,
  `node.Value()`, the background `go ChangeNotification`) may fall between the
  access check and the value access of a client handler; they commute with the
  check (`C34_value_steps_commute`), so every such history is still linearized
  by the order of the single accesses to `n.val` (`C34_app_atomic`,
  `C34_app_step_refines`).  An application write of AccessLevel /
  UserAccessLevel between check and access is where it ends: the split handler
  then produces a history without any linearization
  (`C34_app_access_write_not_linearizable`) — and physically it is a concurrent
  Go map write.  Remaining hypotheses: `Server.Start` is called once; word-sized
  loads and stores of `n.val` are coherent (true on the supported platforms, not
  promised by the Go memory model for racy accesses); the application does not
  write other attributes of a node while clients use that node.
-/
namespace Opcua.Props.C34
open Opcua.Linear Opcua.Access

/-- the structural facts, re-extracted from the source on every run -/
theorem C34_facts :
    Gen.handleServiceCallSites = 1 ∧ Gen.handleServiceConcurrentSites = 0 ∧
    Gen.handleServiceCallers = ["monitorConnections"] ∧ Gen.handleServiceLoopDepth = 1 ∧
    Gen.dispatcherGoSites = 1 ∧ Gen.dispatcherGoSitesInLoop = 0 ∧ Gen.dispatcherOtherCalls = 0 ∧
    Gen.dispatcherStarters = ["Start"] ∧ Gen.valuePathGoStmts = 0 :=
  ⟨rfl, rfl, rfl, rfl, rfl, rfl, rfl, rfl, rfl⟩

/-- MAIN (generic): for every well-formed trace of a single-dispatcher machine
    the dispatch order `log` is a linearization of the history:
    (1) it is a legal sequential run of the handler from the initial state, ending in the final state;
    (2) every response delivered to a client is the result the sequential run gave to that operation;
    (3) real time: an operation whose response precedes the invocation of another one precedes it in `log`. -/
theorem C34_linearizable {σ O R : Type} [DecidableEq R] (step : σ → O → R × σ) (s0 : σ)
    (tr : List (Ev O R)) (m : M σ O R) (h : mrun step (M.init s0) tr = some m) :
    seqRun step s0 (m.log.map (·.2.1)) = (m.log.map (·.2.2), m.st) ∧
    (∀ id r, Ev.resp id r ∈ tr → ∃ op, (id, op, r) ∈ m.log) ∧
    (∀ t1 t2 b opb, tr = t1 ++ Ev.inv b opb :: t2 → ∀ a r, Ev.resp a r ∈ t1 →
      ∃ l1 l2, m.log = l1 ++ l2 ∧ a ∈ logIds l1 ∧ b ∉ logIds l1) := by
  obtain ⟨hw, _, hresp⟩ := WF_run step s0 tr _ m (WF_init step s0) h
  refine ⟨hw.legal, hresp, ?_⟩
  intro t1 t2 b opb htr a r ha
  subst htr
  rw [mrun_append] at h
  -- m1: the machine when b is invoked; a is in its log already, b is not, and the log only grows
  obtain ⟨m1, h1, h⟩ := Option.bind_eq_some_iff.1 h
  obtain ⟨hw1, _, hresp1⟩ := WF_run step s0 t1 _ m1 (WF_init step s0) h1
  obtain ⟨_, ⟨l, hl⟩, _⟩ := WF_run step s0 _ m1 m hw1 h
  obtain ⟨opa, hopa⟩ := hresp1 a r ha
  refine ⟨m1.log, l, hl, List.mem_map.2 ⟨_, hopa, rfl⟩, fun hb => ?_⟩
  rw [mrun_cons] at h
  obtain ⟨m2, h2, _⟩ := Option.bind_eq_some_iff.1 h
  exact (mstep_inv h2).1 (hw1.logUsed b hb)

/-- REFINEMENT: one handler step of the attribute service against one register per node.
    A successful Value read returns the register's content and changes no register; a successful
    Value write sets exactly that register; every other request (other attributes, refused,
    unknown node, panic) leaves all registers as they are. -/
theorem C34_step_refines (sv : Server) (op : Op) :
    match regEv op (step sv op).1 with
    | .read k d => abs sv k = some d ∧ abs (step sv op).2 = abs sv
    | .write k d => (∃ old, abs sv k = some old) ∧ abs (step sv op).2 = (abs sv).set k d
    | .none => abs (step sv op).2 = abs sv := by
  obtain ⟨hr, hw, hn⟩ := step_refines sv op
  cases he : regEv op (step sv op).1 with
  | read k d => exact ⟨hr k d he, hn (by simp [he])⟩
  | write k d => exact hw k d he
  | none => exact hn (by simp [he])

/-- a register history is legal: every read returns the last value written (or the initial one) -/
def regLegal : Regs → List RegEv → Prop
  | _, [] => True
  | r, .read k d :: rest => r k = some d ∧ regLegal r rest
  | r, .write k d :: rest => regLegal (r.set k d) rest
  | r, .none :: rest => regLegal r rest

/-- the successful Value operations of any sequential run of the attribute service form a
    legal history of one register per node — so, with `C34_linearizable`, the dispatch
    order restricted to successful operations linearizes the clients' history -/
theorem C34_register_history (ops : List Op) (sv : Server) :
    regLegal (abs sv) ((ops.zip (seqRun step sv ops).1).map (fun p => regEv p.1 p.2)) := by
  induction ops generalizing sv with
  | nil => simp [seqRun, regLegal]
  | cons op rest ih =>
    have hr := C34_step_refines sv op
    have ih' := ih (step sv op).2
    simp only [seqRun, List.zip_cons_cons, List.map_cons]
    cases he : regEv op (step sv op).1 with
    | read k d => simp only [he] at hr; rw [hr.2] at ih'; exact ⟨hr.1, ih'⟩
    | write k d => simp only [he] at hr; rw [hr.2] at ih'; exact ih'
    | none => simp only [he] at hr; rw [hr] at ih'; exact ih'

/-- the two together, for the attribute service model: any well-formed concurrent trace is
    linearized by its dispatch order, which is a legal register history -/
theorem C34_server_linearizable (sv0 : Server) (tr : List (Ev Op Res)) (m : M Server Op Res)
    (h : mrun step (M.init sv0) tr = some m) :
    regLegal (abs sv0) (m.log.map (fun e => regEv e.2.1 e.2.2)) ∧
    (∀ id r, Ev.resp id r ∈ tr → ∃ op, (id, op, r) ∈ m.log) := by
  obtain ⟨h1, h2, _⟩ := C34_linearizable step sv0 tr m h
  refine ⟨?_, h2⟩
  have := C34_register_history (m.log.map (·.2.1)) sv0
  rw [h1] at this
  rwa [List.zip_map', List.map_map] at this

/-! ### the embedding application -/

/-- application steps taken as atomic steps next to the client requests: the generic theorem applies,
    the linearization order is the order of the steps -/
theorem C34_app_atomic (sv0 : Server) (tr : List (Ev XOp Res)) (m : M Server XOp Res)
    (h : mrun stepX (M.init sv0) tr = some m) :
    seqRun stepX sv0 (m.log.map (·.2.1)) = (m.log.map (·.2.2), m.st) ∧
    (∀ id r, Ev.resp id r ∈ tr → ∃ op, (id, op, r) ∈ m.log) ∧
    (∀ t1 t2 b opb, tr = t1 ++ Ev.inv b opb :: t2 → ∀ a r, Ev.resp a r ∈ t1 →
      ∃ l1 l2, m.log = l1 ++ l2 ∧ a ∈ logIds l1 ∧ b ∉ logIds l1) :=
  C34_linearizable stepX sv0 tr m h

/-- what the application steps are as register operations: `SetAttribute(Value, d)` sets exactly
    the register of that node (no access check), a read returns the register and changes
    nothing, a write of another attribute changes no register -/
theorem C34_app_step_refines (sv : Server) (i k : Nat) (d : DV) (a : Nat) :
    (abs (stepX sv (.appSetValue i k d)).2 =
      fun key => if key = (i, k) then (abs sv key).map (fun _ => d) else abs sv key) ∧
    ((stepX sv (.appGetValue i k)).2 = sv ∧
      ∀ x, (stepX sv (.appGetValue i k)).1 = .value x → abs sv (i, k) = some x) ∧
    (abs (stepX sv (.appSetAttr i k a d)).2 = abs sv) := by
  refine ⟨abs_updNode sv i k _ _ fun _ => rfl, ⟨rfl, ?_⟩, ?_⟩
  · intro x hx
    simp only [stepX, abs] at hx ⊢
    cases hn : sv.node i k with
    | none => simp [hn] at hx
    | some n =>
      simp only [hn] at hx
      cases hv : n.val <;> simp_all
  · -- the value word is kept: the register of (i,k) is mapped by the identity
    refine (abs_updNode sv i k (fun n => { n with attrs := setAttr n.attrs a d }) id fun _ => rfl).trans ?_
    funext key
    split <;> simp

/-- MAIN for the application: whatever application steps that touch only value words fall
    between the access check of a client handler and its value access, the handler's outcome
    and effect are those of the atomic handler executed at the moment of the value access -/
theorem C34_value_steps_commute (sv : Server) (op : Op) (xs : List XOp)
    (h : ∀ x ∈ xs, x.valueOnly = true) :
    act (runX sv xs) op (chk sv op) = step (runX sv xs) op := by
  rw [← chk_runX_valueOnly xs sv h op, act_chk]

/-- … and that is exactly where it ends.  Node without restriction holding 0; a client write of 7
    passes the check; the application then makes the node read-only and reads 0; the handler
    stores 7 and answers Good.  For the three completed operations the search `linB` (every order `perms`
    generates, tested against real time and `stepX`) finds no linearization w.r.t. the access-checked
    register (the write must precede the level change, the read follows the level change, yet it saw the
    old value); with a value-only step in the same place it finds one.  That `perms` yields all orders is
    not proved. -/
theorem C34_app_access_write_not_linearizable :
    let n : Node := { attrs := [], val := .v tyInt32 0 }
    let sv : Server := fun i => if i = 1 then some (fun k => if k = 0 then some n else none) else none
    let w : Op := .write 1 0 aValue (.v tyInt32 7)
    let a : XOp := .appSetAttr 1 0 aAccessLevel (.v tyByte 1)
    let r : XOp := .appGetValue 1 0
    -- the split execution: check, application steps, value access
    (stepX (stepX sv a).2 r).1 = .value (.v tyInt32 0) ∧
    (act (runX sv [a, r]) w (chk sv w)).1 = .status .ok ∧
    ((act (runX sv [a, r]) w (chk sv w)).2.node 1 0).map (·.val) = some (.v tyInt32 7) ∧
    -- the atomic handler at that moment would have refused
    (step (runX sv [a, r]) w).1 = .status .badUserAccessDenied ∧
    -- no linearization of the observed history
    linB sv [⟨.client w, .status .ok, 0, 7⟩, ⟨a, .status .ok, 2, 3⟩, ⟨r, .value (.v tyInt32 0), 4, 5⟩] = false ∧
    -- the same shape with a value-only application step is linearizable
    linB sv [⟨.client w, .status .ok, 0, 7⟩, ⟨.appSetValue 1 0 (.v tyInt32 3), .status .ok, 2, 3⟩,
             ⟨r, .value (.v tyInt32 3), 4, 5⟩] = true := by
  decide

/-- non-vacuity: two clients, overlapping write and read; both orders of the dispatcher are traces -/
example :
    let n : Node := { attrs := [], val := .v 6 0 }
    let sv : Server := fun i => if i = 1 then some (fun k => if k = 0 then some n else none) else none
    (mrun step (M.init sv) [.inv 1 (.write 1 0 aValue (.v 6 7)), .inv 2 (.read 1 0 aValue), .disp 2, .disp 1,
        .resp 2 (.value (.v 6 0)), .resp 1 (.status .ok)]).isSome = true ∧
    (mrun step (M.init sv) [.inv 1 (.write 1 0 aValue (.v 6 7)), .inv 2 (.read 1 0 aValue), .disp 1, .disp 2,
        .resp 2 (.value (.v 6 7)), .resp 1 (.status .ok)]).isSome = true ∧
    -- a response with a value nobody wrote is not a trace
    (mrun step (M.init sv) [.inv 2 (.read 1 0 aValue), .disp 2, .resp 2 (.value (.v 6 9))]).isSome = false := by
  decide

end Opcua.Props.C34
