import OpcuaModel.Model.SendHandlers
import OpcuaModel.Gen.ReqID
import OpcuaModel.Gen.SendFacts
/-
  C18 — each request receives its own response, whatever the concurrency and
  ordering.

  `SendHandlers.step?` is the handler-table LTS (one label per `handlersMu`
  critical section / channel operation, see the model file); `Reachable` is
  quantified over any number of callers, any seed of the request id counter,
  any interleaving and any behaviour of the peer (reordered, dropped,
  duplicated, unsolicited responses are all `pop` labels).  Request ids come
  from the machine-translated `Gen.nextRequestID`.
-/
namespace Opcua.Props.C18
open Opcua Opcua.SendHandlers

/-- the atomicity the LTS assumes is what the source does: every access of
    `handlers` is under `handlersMu`, the client-side accesses of `requestID` are
    under `requestIDMu`, and the response channel has capacity one.  The length
    clause keeps the first `all` from holding of an empty list: the extractor has
    found the four accesses (lookup and insert in `sendAsyncWithTimeout`, lookup
    and delete in `popHandler`) -/
theorem C18_facts :
    ((Gen.SendFacts.accesses.filter (·.field == "handlers")).all (·.held.contains "handlersMu") = true) ∧
    ((Gen.SendFacts.accesses.filter (fun a => a.field == "requestID" && a.fn != "handleOpenSecureChannelRequest")).all
        (·.held.contains "requestIDMu") = true) ∧
    (Gen.SendFacts.accesses.filter (·.field == "handlers")).length ≥ 4 ∧
    Gen.SendFacts.responseChanCap = 1 := by decide

/-- a response is only ever taken by the caller that registered the request id
    the response carries -/
theorem C18_own {s : St} (h : Reachable s) (k : Nat) (m : Msg) (hd : (k, m) ∈ s.delivered) :
    s.cs k = .got m.id m := ((reachable_inv h).dlv k m hd).1

/-- a caller takes at most one response -/
theorem C18_at_most_once_caller {s : St} (h : Reachable s) : (s.delivered.map (·.1)).Nodup :=
  (reachable_inv h).nodup

/-- a response (one arrival at the dispatcher) is handed to at most one caller -/
theorem C18_at_most_once_msg {s : St} (h : Reachable s) (k₁ k₂ : Nat) (m₁ m₂ : Msg)
    (h₁ : (k₁, m₁) ∈ s.delivered) (h₂ : (k₂, m₂) ∈ s.delivered) (hs : m₁.serial = m₂.serial) :
    k₁ = k₂ ∧ m₁ = m₂ := by
  have ⟨a1, a2, _⟩ := (reachable_inv h).dlv k₁ m₁ h₁
  have ⟨b1, b2, _⟩ := (reachable_inv h).dlv k₂ m₂ h₂
  have hk : k₁ = k₂ := Option.some.inj (a2.symm.trans (hs ▸ b2))
  subst hk
  exact ⟨rfl, (CS.got.inj (a1.symm.trans b1)).2⟩

/-- the send into the capacity-1 response channel never finds it full (the
    `default:` branch of the dispatcher is dead) -/
theorem C18_send_never_full {s : St} (h : Reachable s) : s.full = 0 := (reachable_inv h).neverFull

/-- a message whose handler was popped is on its way to exactly that caller:
    whoever holds a pending message registered its id -/
theorem C18_inflight_own {s : St} (h : Reachable s) (k : Nat) (m : Msg) (hb : s.box k = some m) :
    s.cs k = .registered m.id ∨ s.cs k = .abandoned m.id := ((reachable_inv h).boxOwn k m hb).1

/-- wrap-around: while an id is pending, a second registration of the same id
    is refused … -/
theorem C18_wrap_second_refused (s : St) (k k' id : Nat) (hp : s.handlers id = some k) (hc : s.cs k' = .hasId id) :
    step? s (.register k' true) = none := by
  simp [step?, hc, hp]

/-- … it fails with the duplicate-registration error and the first caller keeps its handler -/
theorem C18_wrap_first_keeps (s s' : St) (k k' id : Nat) (hp : s.handlers id = some k) (hc : s.cs k' = .hasId id)
    (hs : step? s (.register k' false) = some s') :
    s'.handlers = s.handlers ∧ s'.cs k' = .dup id ∧ s'.box = s.box := by
  simp [step?, hc, hp] at hs
  subst hs
  simp

/-- unsolicited, duplicate and late responses (no handler for the id) are dropped:
    no caller state, no pending channel and no handler changes -/
theorem C18_unsolicited_dropped (s : St) (id : Nat) (hn : s.handlers id = none) (hd : s.disp = none) :
    step? s (.pop id true) = none ∧
    ∃ s', step? s (.pop id false) = some s' ∧ s'.handlers = s.handlers ∧ s'.box = s.box ∧ s'.cs = s.cs ∧
      s'.delivered = s.delivered ∧ s'.disp = none ∧ s'.dropped = s.dropped + 1 := by
  simp [step?, hn, hd]

/-- the n-th id handed out after the counter had value c -/
def idAt (c : Int) : Nat → Int
  | 0 => c
  | n + 1 => (Gen.nextRequestID (idAt c n)).2

/-- one call of the machine-translated `nextRequestID` -/
theorem C18_next_value (x : Int) (h0 : 0 ≤ x) (h1 : x < 4294967296) :
    (Gen.nextRequestID x).2 = if x = 4294967295 then 1 else x + 1 := by
  simp only [Gen.nextRequestID]
  by_cases hx : x = 4294967295
  · subst hx; decide
  · have h2 : (x + 1) % 4294967296 = x + 1 := by omega
    have h3 : ¬ (x + 1 = 0) := by omega
    simp [h2, hx, h3]

/-- closed form of the machine-translated `nextRequestID`: ids cycle through
    1 … 2^32−1, zero is skipped -/
theorem C18_id_closed_form (c : Int) (h0 : 0 ≤ c) (h1 : c < 4294967296) (n : Nat) :
    idAt c (n + 1) = (c + n) % 4294967295 + 1 := by
  induction n with
  | zero =>
    show (Gen.nextRequestID c).2 = _
    rw [C18_next_value c h0 h1]
    split <;> omega
  | succ n ih =>
    show (Gen.nextRequestID (idAt c (n + 1))).2 = _
    rw [ih, C18_next_value _ (by omega) (by omega)]
    split <;> omega

theorem C18_id_range (c : Int) (h0 : 0 ≤ c) (h1 : c < 4294967296) (n : Nat) :
    1 ≤ idAt c (n + 1) ∧ idAt c (n + 1) < 4294967296 := by
  rw [C18_id_closed_form c h0 h1 n]; omega

/-- any 2^32−1 consecutive calls hand out pairwise different ids: two requests
    can only share an id if at least 2^32−1 calls lie between them -/
theorem C18_ids_distinct_window (c : Int) (h0 : 0 ≤ c) (h1 : c < 4294967296) (i j : Nat)
    (hij : i < j) (hw : j < i + 4294967295) : idAt c (i + 1) ≠ idAt c (j + 1) := by
  rw [C18_id_closed_form c h0 h1 i, C18_id_closed_form c h0 h1 j]; omega

theorem C18_counter_range {s : St} (h : Reachable s) : 0 ≤ s.counter ∧ s.counter < 4294967296 := by
  induction h with
  | init c hc => simp [init]; omega
  | step l _ hs ih =>
    cases Step.of hs with
    | setCounter n hn => exact ⟨Int.natCast_nonneg n, show (n : Int) < 4294967296 by omega⟩
    | nextId => simp only [Gen.nextRequestID]; split <;> omega
    | _ => exact ih

/-- typed assignment (`safeAssign` in client.go): a response of another type is
    reported as an error and the caller's result is left untouched; a response of
    the expected type is assigned -/
theorem C18_wrong_type (got want : Nat) (old : Option Nat) :
    (got ≠ want → safeAssign got want old = (false, old)) ∧
    (got = want → safeAssign got want old = (true, some got)) := by
  constructor <;> intro h <;> simp [safeAssign, h]

/-- non-vacuity: two callers, responses in reverse order, a duplicate of the
    second response and one unsolicited id; ids wrap from 2^32−1 to 1 -/
example :
    (run? (init 4294967294)
      [.nextId 0 4294967295, .nextId 1 1, .register 1 true, .register 0 true,
       .pop 1 true, .deliver, .pop 77 false, .pop 4294967295 true, .deliver, .pop 1 false,
       .recv 0, .recv 1]).map (fun s => (s.delivered, s.dropped))
    = some ([(1, ⟨1, 0⟩), (0, ⟨4294967295, 2⟩)], 2) := by decide

/-- non-vacuity of the wrap-around case: caller 0 is pending with id 5, the
    counter comes round to 4, caller 1 draws 5 again and is refused -/
example :
    (run? (init 4) [.nextId 0 5, .register 0 true, .setCounter 4, .nextId 1 5, .register 1 false]).map
      (fun s => (s.handlers 5, s.cs 1)) = some (some 0, .dup 5) := by decide

end Opcua.Props.C18
