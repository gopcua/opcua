import OpcuaModel.Model.InteropLemmas
/-
  C37 — client and server interoperate under every supported security
  configuration. The quantifier is finite: `configTable` is computed from the
  generated list of supported policies and their modes (`Gen.interopPolicies`),
  the committed key sizes (`Gen.testKeys`) and the Part 7 key ranges (`Spec`);
  `connect` consumes the generated constructor guards and padding constants
  (`Gen.asymRows`). That every row connects is decided by kernel evaluation
  (`C37_all`); which rows the table has is read off its definition
  (`mem_configTable`, Model/InteropLemmas.lean).
-/
namespace Opcua.Props.C37
open Opcua Opcua.Asym Opcua.Interop

/-- EVERY configuration of the table connects: the advertised endpoint and
    token are found, both ends accept both keys (OPN, session signatures,
    password encryption), the secured OpenSecureChannel request and response
    are one chunk whose MessageSize field equals its length and which fits the
    peer's receive buffer. -/
theorem C37_all : ∀ cfg ∈ configTable, connect cfg = .ok := by
  decide +kernel

/-- DEPENDENCY C30 ↔ C37 (discovery): if the server admitted only the enabled
    (policy, mode) pairs — the withdrawn C30 repair — every configuration whose
    server does not enable None/None would fail at discovery, because
    `opcua.GetEndpoints` needs an unsecured channel; only the policy-None rows
    would still connect. -/
theorem C37_enabled_only_breaks_discovery : ∀ cfg ∈ configTable,
    connectWith .enabledOnly cfg = (if polIsNone cfg.pol then .ok else .discoveryRefused) := by
  -- on the policy list: `nonePol` is the index of the policy marked None, whose one mode is 1
  have hpol : ∀ ip ∈ enumFrom 0 Gen.interopPolicies,
      (ip.2.isNone = true ↔ ip.1 = nonePol) ∧ (ip.2.isNone = true → ip.2.modes = [1]) := by decide
  -- only a server whose own endpoint is None/None has the discovery channel among its enabled pairs:
  -- the mode of a row is one of its policy's, and the pair of `extra` has mode 3
  have hd : ∀ cfg ∈ configTable, cfg.enabled.contains (nonePol, 1) = polIsNone cfg.pol := by
    intro cfg h
    obtain ⟨p, hp, hm, -⟩ := mem_configTable.1 h
    obtain ⟨h1, h2⟩ := hpol (cfg.pol, p) (mem_enumFrom_policies.2 hp)
    have h3 : polIsNone cfg.pol = p.isNone := by simp [polIsNone, hp]
    rw [h3, Bool.eq_iff_iff, List.contains_iff_mem]
    cases he : cfg.extra <;> simp [Config.enabled, he] <;> grind
  intro cfg h
  rw [connectWith_eq _ (C37_all cfg h ▸ nofun), C37_all cfg h]
  simp only [admits, hd cfg h]
  cases polIsNone cfg.pol <;> simp [Config.enabled]

/-- … whereas admitting the enabled pairs PLUS the unsecured discovery channel
    (Part 4 §5.4.1) keeps every configuration connecting: C30 can be repaired
    that way without breaking C37. -/
theorem C37_enabled_or_discovery_ok : ∀ cfg ∈ configTable,
    connectWith .enabledOrDiscovery cfg = .ok := by
  intro cfg h
  rw [connectWith_eq _ (C37_all cfg h ▸ nofun), C37_all cfg h]
  simp [admits, Config.enabled]

/-- the table has the expected size: 5 secured policies × 2 modes × (4 + 4 + 9 + 9 + 9
    key-size pairs) × 2 token types = 140, + 2 anonymous rows for policy None, + 26 rows
    username-over-the-None-endpoint (13 (secured policy, server key) pairs × client key absent / 2048) -/
theorem C37_table_size : configTable.length = 168 := by
  decide +kernel

/-- the policy index means the same policy in both generated tables -/
theorem C37_index_aligned :
    Gen.interopPolicies.map (·.name) = Gen.asymRows.map (·.name) ∧
    Gen.interopPolicies.map (·.isNone) = Gen.asymRows.map (fun r => decide (r.scheme = .none)) := by
  decide +kernel

/-- The table is complete: for every supported policy with a Part 7 key range,
    every mode, every pair of committed key sizes and every token type, the row
    is in the table iff the mode has a security level for that policy and both
    keys are within the Part 7 range (Boolean form). -/
theorem C37_table_complete :
    ((enumFrom 0 Gen.interopPolicies).all fun (i, p) =>
      match Spec.keyBits p.name with
      | none => true
      | some r =>
        [1, 2, 3].all fun m => keySizes.all fun cb => keySizes.all fun sb =>
          [Auth.anonymous, Auth.username].all fun a =>
            (configTable.contains (⟨i, m, cb, sb, a, none⟩ : Config)) ==
              (p.modes.contains m && inRange r cb && inRange r sb)) = true := by
  simp only [List.all_eq_true, Prod.forall, mem_enumFrom_policies]
  intro i p hp
  split
  · rfl
  next r hr =>
    simp only [List.all_eq_true, beq_iff_eq]
    intro m _ cb hcb sb hsb a _
    -- the policy of the row is `p`, whose range is `r`; both key sizes are committed ones
    rw [Bool.eq_iff_iff, List.contains_iff_mem, mem_configTable]
    simp [hp, hr, hcb, hsb, and_assoc]

/-- no row of the table uses an unsupported policy, a mode without a security
    level, or (on a secured channel) a key outside the Part 7 range -/
theorem C37_table_sound :
    (configTable.all fun cfg =>
      match policyInfo cfg.pol with
      | none => false
      | some p => p.modes.contains cfg.mode &&
          (cfg.mode == 1 || (keyAllowed p.name cfg.cbits && keyAllowed p.name cfg.sbits)) &&
          (match cfg.extra with
           | none => true
           | some j => cfg.mode == 1 && cfg.auth == .username && keyAllowed (polName j) cfg.sbits && !polIsNone j)) = true := by
  decide +kernel

/-- username over the None endpoint: for every secured policy `q` and every
    committed server key size, the row is in the table iff `q` allows that key
    size (client key absent or 2048 bits) -/
theorem C37_table_complete_none_username :
    ((enumFrom 0 Gen.interopPolicies).all fun (i, p) => !p.isNone ||
      ((enumFrom 0 Gen.interopPolicies).all fun (j, q) => q.isNone ||
        keySizes.all fun sb => [0, 2048].all fun cb =>
          configTable.contains (⟨i, 1, cb, sb, .username, some j⟩ : Config) == keyAllowed q.name sb)) = true := by
  -- the policies without a Part 7 key range are those marked None, and they have the one mode None
  have hal : ∀ p ∈ Gen.interopPolicies,
      (Spec.keyBits p.name).isNone = p.isNone ∧ (p.isNone = true → p.modes = [1]) := by decide +kernel
  have hmem : ∀ i p, policyInfo i = some p → p ∈ Gen.interopPolicies := fun _ _ => List.mem_of_getElem?
  simp only [List.all_eq_true, Bool.or_eq_true, Bool.not_eq_true', beq_iff_eq, Prod.forall, mem_enumFrom_policies]
  -- by `hal`, `p` has no key range and the mode 1, and `q` has a range: `mem_configTable` puts the row among
  -- the username rows of `q`, where only `keyAllowed q.name sb` is not a hypothesis
  grind [List.contains_iff_mem, mem_configTable]

/-- what a server enabling None together with a secured policy advertises on
    its None endpoint: the anonymous token and the username token under the
    secured policy -/
theorem C37_tokens_none_endpoint :
    ((enumFrom 0 Gen.interopPolicies).all fun (i, p) => !p.isNone ||
      ((enumFrom 0 Gen.interopPolicies).all fun (j, q) => q.isNone ||
        ((serverEndpoints [(i, 1), (j, 3)] [.anonymous, .username]).head?.map (·.tokens)) ==
          some [⟨.anonymous, none⟩, ⟨.username, some j⟩])) = true := by
  decide +kernel

/-- what a server enabling one (policy, mode) with both token types advertises:
    the anonymous token under policy None, and — unless the policy is None —
    the username token under the endpoint's own policy -/
theorem C37_tokens :
    ((enumFrom 0 Gen.interopPolicies).all fun (i, p) => p.modes.all fun m =>
      serverEndpoints [(i, m)] [.anonymous, .username] ==
        [⟨i, m, if p.isNone then [⟨.anonymous, none⟩] else [⟨.anonymous, none⟩, ⟨.username, some i⟩]⟩]) = true := by
  decide +kernel

/-- the PolicyID strings the Go code compares are pairwise distinct for the
    tokens a server can advertise, so comparing (type, policy) is the same -/
theorem C37_policy_ids_distinct :
    let toks : List Token := [⟨.anonymous, none⟩] ++ (List.range Gen.interopPolicies.length).map (fun i => ⟨.username, some i⟩)
    (toks.map policyIDString).Nodup := by
  decide +kernel

/-- the OPN request is one chunk for ANY certificate: for every server key size
    and padding constant that occurs, any client key up to 4096 bits, a header
    of up to 40 000 bytes (certificate chain) and a body of up to 200 bytes the
    secured chunk stays within the default 65 535-byte receive buffer (`k`: the key sizes of
    `Gen.testKeys` in bytes; `pad`: `Gen.pKCS1v15MinPadding`, `Gen.rSAOAEPMinPaddingSHA1`,
    `Gen.rSAOAEPMinPaddingSHA256`) -/
theorem C37_opn_fits_any_cert (H n sigLen : Int) (hH : 0 ≤ H) (hH2 : H ≤ 40000) (hn : 0 ≤ n) (hn2 : n ≤ 200)
    (hs : 0 ≤ sigLen) (hs2 : sigLen ≤ 512) :
    ∀ k ∈ [128, 256, 384, 512], ∀ pad ∈ [(11 : Int), 42, 130], k - pad > 0 →
      (asymSecure H n sigLen k pad pad).chunkLen ≤ 65535 ∧
      (asymSecure H n sigLen k pad pad).sizeField = (asymSecure H n sigLen k pad pad).chunkLen := by
  intro k hk pad hp hpos
  obtain ⟨q, hq, h1, h2⟩ := asymSecure_blocks H hpos hn hs
  rw [h1, h2]
  refine ⟨?_, rfl⟩
  -- at most 200 + 512 + 2 bytes go into the blocks before padding
  have hq : q ≤ 714 / (k - pad) + 1 :=
    Int.le_trans hq (Int.add_le_add_right (Int.ediv_le_ediv hpos (by omega)) 1)
  clear h1 h2 hn hn2 hs hs2
  simp only [List.mem_cons, List.mem_nil_iff, or_false] at hk hp
  rcases hk with rfl | rfl | rfl | rfl <;> rcases hp with rfl | rfl | rfl <;> omega

/-- non-vacuity: the largest configuration -/
example : polName 1 = "Aes256_Sha256_RsaPss" ∧ connect ⟨1, 3, 4096, 4096, .username, none⟩ = .ok ∧
    (opnRequest ⟨1, 3, 4096, 4096, .username, none⟩).isSome = true := by
  decide +kernel

/-- a key outside the range is refused by the model as well -/
example : polName 3 = "Basic256" ∧ connect ⟨3, 3, 4096, 2048, .anonymous, none⟩ = .clientRefusesKeys := by decide +kernel

end Opcua.Props.C37
