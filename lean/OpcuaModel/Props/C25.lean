import OpcuaModel.Model.ConnLts
import OpcuaModel.Model.ConnLtsLemmas
/-
  C25 — connection state follows the documented lifecycle under faults.

  `ConnLts` is the LTS of the user thread (`Connect`, `Close`), the
  `Client.monitor` goroutine and an arbitrary environment; `Reach` is
  reachability under every interleaving and every environment behaviour.
  The theorems are invariants proved by induction over `Reach`, a variant
  (ranking) argument for termination after Close, and bounded recovery.
-/
namespace Opcua.Props.C25
open Opcua.ConnLts

theorem C25_invariant {a h : Bool} {s : St} (hr : Reach a h s) : Good s = true :=
  hr.good

/-- C25 first clause, FULL STRENGTH: under every fault sequence, every
    environment behaviour and every interleaving with `Connect` / `Close`, each
    state the client reports is a documented successor (connstate.go,
    stuttering allowed) of the previously reported one. -/
theorem C25_transitions {a h : Bool} {s s' : St} {x : ConnState} (hr : Reach a h s) (hs : s' ∈ obs s (.st x)) :
    doc s.last x = true := by
  have hi := C25_invariant hr
  obtain ⟨ht, -⟩ := Good.rest hi
  cases Step.of_obs hs with
  -- `Connect` reports from `c0` and `c3`, where `Good` fixes the last report
  | connecting hu | connected hu => simp [Good, hu] at hi; grind [doc]
  -- every state may be followed by `Closed`
  | closed | sessClosed | exited => cases s.last <;> rfl
  -- the reports of the live monitor: `monTable` names the last report at its program point
  | disconnected hm hc | newChan _ hm hc | restore hm hc | recreate hm hc | subs hm hc =>
    simp only [hc, hm, monTable, Bool.false_eq_true, false_or] at ht
    revert ht; cases s.last <;> decide

/-- once `Close` has cancelled the monitor context (which it does before it
    reports `Closed`), the only state that can still be reported is `Closed` -/
theorem C25_only_closed_after_close {a h : Bool} {s s' : St} {x : ConnState} (hr : Reach a h s)
    (hc : s.cancelled = true) (hs : s' ∈ obs s (.st x)) : x = .closed := by
  have hu := Good.closing (C25_invariant hr) (.inl hc)
  -- `Connect` reports before it starts the monitor (excluded by `hu`), the monitor while its context is live
  cases Step.of_obs hs <;> simp_all

/-- after `Close` (monitor context cancelled) no TCP connect attempt is made any more -/
theorem C25_no_dial_after_close {a h : Bool} {s : St} (hr : Reach a h s) (hc : s.cancelled = true) :
    obs s .dial = [] := by
  have hu := Good.closing (C25_invariant hr) (.inl hc)
  refine List.eq_nil_iff_forall_not_mem.2 fun s' hs => ?_
  cases Step.of_obs hs <;> simp_all

/-- once the monitor context is cancelled it stays cancelled and every step
    that moves the monitor goroutine strictly decreases `exitRank`: the
    goroutine exits (reporting `Closed`) after at most 7 of its own steps -/
theorem C25_monitor_exits {a h : Bool} {s s' : St} (hr : Reach a h s) (hc : s.cancelled = true)
    (hs : s' ∈ tau s ∨ ∃ e, s' ∈ obs s e) :
    s'.cancelled = true ∧ (s'.mpc = s.mpc ∨ exitRank s'.mpc < exitRank s.mpc) := by
  have hu := Good.closing (C25_invariant hr) (.inl hc)
  obtain ⟨l, hs⟩ := Step.of_mem hs
  -- `hu` excludes `connected`, the one step that raises the rank (it starts the monitor)
  cases hs <;> simp_all [exitRank]

/-- CLOSED IS FINAL: once `Close` has returned and the monitor goroutine has
    exited, the last reported state is `Closed` and nothing at all can happen
    any more — no report, no dial, no hidden step -/
theorem C25_closed_is_final {a h : Bool} {s : St} (hr : Reach a h s) (h1 : s.cl = .ended) (h2 : s.mpc = .dead) :
    s.last = .closed ∧ tau s = [] ∧ ∀ e, obs s e = [] := by
  have hi := C25_invariant hr
  have hu : s.upc = .running ∨ s.upc = .failed := by simpa [h1] using Good.closing hi (.inr (by simp [h1]))
  have stuck : ∀ {l s'}, ¬ Step s l s' := fun h => by rcases hu with hu | hu <;> cases h <;> simp_all
  obtain ⟨-, hd, -⟩ := Good.rest hi
  exact ⟨hd h2, List.eq_nil_iff_forall_not_mem.2 fun _ hs => (Step.of_tau hs).elim fun _ => stuck,
    fun _ => List.eq_nil_iff_forall_not_mem.2 fun _ hs => stuck (.of_obs hs)⟩

/-- the last step of the monitor goroutine: at `exit` the only report that moves
    it is `Closed`, and then it is `dead` (`C25_monitor_exits` bounds the steps it
    takes before; that it takes them is not stated) -/
theorem C25_exit_reports_closed {a h : Bool} {s s' : St} {x : ConnState} (hr : Reach a h s) (hm : s.mpc = .exit)
    (hs : s' ∈ obs s (.st x)) (hmoved : s'.mpc ≠ s.mpc) : x = .closed ∧ s'.mpc = .dead := by
  -- of the reports possible at `exit` only `exited` and `connected` move the monitor; `Connect` starts it from `notStarted`
  have hu := (Good.started (C25_invariant hr)).1 (by simp [hm])
  cases Step.of_obs hs <;> simp_all

/-- BOUNDED RECOVERY: from every point of the reconnect loop, if every
    environment answer is a success (`happy`) and nobody calls Close, the
    client reports `Connected` and the monitor is back in its waiting state
    after at most 17 steps -/
theorem C25_recovers {a h : Bool} {s : St} (hr : Reach a h s) (hn : s.cl = .no) (h : reconnecting s = true) :
    (iter happy 17 s).mpc = .wait ∧ (iter happy 17 s).last = .connected := by
  have hi := C25_invariant hr
  rcases s with ⟨_, mpc, _, _, sess⟩
  simp only at hn; subst hn
  -- 17 is the longest chain: from `disc` without a session (channel, restore refused, session re-created,
  -- subscriptions transferred); shorter starts are covered because `happy` is the identity at `wait`
  cases mpc with
  | done =>
    -- the context is live (no Close), so the last report at `done` is `Connected`
    obtain ⟨ht, -, -, hc, -⟩ := Good.rest hi
    simp_all [iter, happy, monTable]
  | err c => cases c <;> cases sess <;> simp [reconnecting] at h <;> simp [iter, happy, classify]
  | top b | act b => cases b <;> cases sess <;> simp [reconnecting] at h <;> simp [iter, happy]
  | _ => cases sess <;> simp [reconnecting] at h <;> simp [iter, happy, classify]

/-- every `happy` step is a step of the LTS (so the recovery path is a path of the model) -/
theorem C25_happy_is_step (s : St) (h : reconnecting s = true) (hc : s.cancelled = false) (ha : s.auto = true) :
    happy s ∈ tau s ∨ ∃ e, happy s ∈ obs s e := by
  rcases s with ⟨_, mpc, _, _, sess, _, _, hooks⟩
  simp only at hc ha; subst hc ha
  cases mpc with
  | disc => cases hooks
            · left; simp [happy, tau, monHidden]
            · right; exact ⟨.mError .eof, by simp [happy, obs]⟩
  | err c => left; cases c <;> simp [reconnecting] at h <;> simp [happy, tau, classify]
  | top b => cases hooks
             · left; simp [happy, tau, monHidden]
             · right; exact ⟨.mAction b, by simp [happy, obs]⟩
  | act b =>
    cases b <;> simp [reconnecting] at h
    case restoreSubscriptions => right; exact ⟨.st .connected, by simp [happy, obs]⟩
    case transferSubscriptions => left; simp [happy, tau]
    all_goals right; exact ⟨.st .reconnecting, by simp [happy, obs]⟩
  | dialLoop => right; exact ⟨.dial, by simp [happy, obs]⟩
  | dialed | dialWait | recreate1 => left; simp [happy, tau]
  | restore1 => left; cases sess <;> simp [happy, tau]
  | done => cases hooks
            · left; simp [happy, tau, monHidden]
            · right; exact ⟨.mDone, by simp [happy, obs]⟩
  | _ => simp [reconnecting] at h

/-- the witness traces of the repaired defect C25.state-after-close (a state
    reported out of `Closed` by the monitor after `Close` returned) are no
    paths of the model any more; what the repaired client does instead (the same
    traces without the report that followed `u.close.end`) is accepted -/
theorem C25_state_after_close_rejected :
    accepts true true [.uConnect, .st .connecting, .dial, .st .connected, .uConnectOk,
      .st .disconnected, .mError .eof, .mAction .createSecureChannel,
      .uClose, .st .closed, .uCloseEnd, .st .reconnecting, .st .closed] = false ∧
    accepts true true [.uConnect, .st .connecting, .dial, .st .connected, .uConnectOk,
      .st .disconnected, .mError .badSubscription, .mAction .transferSubscriptions, .mAction .restoreSubscriptions,
      .uClose, .st .closed, .uCloseEnd, .st .connected, .mDone, .st .closed] = false ∧
    accepts true true [.uConnect, .st .connecting, .dial, .st .connected, .uConnectOk,
      .st .disconnected, .mError .eof, .mAction .createSecureChannel,
      .uClose, .st .closed, .uCloseEnd, .st .closed] = true ∧
    accepts true true [.uConnect, .st .connecting, .dial, .st .connected, .uConnectOk,
      .st .disconnected, .mError .badSubscription, .mAction .transferSubscriptions, .mAction .restoreSubscriptions,
      .uClose, .st .closed, .uCloseEnd, .mDone, .st .closed] = true := by
  decide +kernel

/-- the monitor never waits with a stale error of a dead channel in front of it:
    `Dial` drains `c.sechanErr` before it creates a channel and the end of a
    reconnect round drains it too -/
theorem C25_no_stale_error_while_waiting {a h : Bool} {s : St} (hr : Reach a h s) (hw : s.mpc = .wait) :
    s.stale = false := by
  obtain ⟨-, -, -, -, hs⟩ := Good.rest (C25_invariant hr)
  exact Bool.eq_false_iff.2 fun h => (hs h).1 hw

/-- `Disconnected` is reported only when the live connection really reported an
    error: never because of what an earlier, failed `Connect` or an earlier
    channel left behind (the repaired defect C25.stale-error-after-failed-connect) -/
theorem C25_disconnected_needs_fault {a h : Bool} {s s' : St} (hr : Reach a h s)
    (hs : s' ∈ obs s (.st .disconnected)) : s.faulted = true := by
  cases Step.of_obs hs with
  | disconnected hw _ hf => simpa [C25_no_stale_error_while_waiting hr hw] using hf

/-- FINDING C25.error-lost-in-reconnect-drain: the drain at the end of a
    reconnect round (`for len(c.sechanErr) > 0 { <-c.sechanErr }`, after
    `Connected` was reported) also discards an error the NEW connection has
    already reported: the monitor then waits with a dead connection and nothing
    will ever report it (the dispatcher has exited) — the step exists in the model -/
theorem C25_finding_error_lost_in_drain :
    ∃ s s', s.mpc = .done ∧ s.last = .connected ∧ s.faulted = true ∧ s' ∈ obs s .mDone ∧
      s'.mpc = .wait ∧ s'.faulted = false ∧ s'.last = .connected :=
  ⟨⟨.running, .done, .no, false, true, .connected, true, true, true, false⟩,
   ⟨.running, .wait, .no, false, true, .connected, true, true, false, false⟩,
   rfl, rfl, rfl, by simp [obs], rfl, rfl, rfl⟩

/-- REPEATED CONNECT: after a `Connect` that returned an error the client has
    reported nothing but `Connecting` / `Closed` last; if the error came from
    the namespace update after `Connected` was reported, Connect's own Close has
    cancelled the monitor and `Closed` is the last report -/
theorem C25_failed_connect_not_connected {a h : Bool} {s : St} (hr : Reach a h s) (hf : s.upc = .failed) :
    (s.last = .closed ∨ s.last = .connecting) ∧ (s.cl = .ended → s.last = .closed ∧ s.cancelled = true) := by
  have hi := C25_invariant hr
  grind [Good, St.clRep]

/-- a failed `Connect` can be retried on the same client, and a `Connect` whose
    namespace update fails after `Connected` ends `Closed` with an error: both
    are paths of the model -/
theorem C25_connect_retry_and_nsfail_paths :
    accepts true true [.uConnect, .st .connecting, .dial, .uConnectErr,
      .uConnect, .st .connecting, .dial, .st .connected, .uConnectOk] = true ∧
    accepts true true [.uConnect, .st .connecting, .dial, .st .connected, .st .closed, .uConnectErr, .st .closed] = true ∧
    accepts true true [.uConnect, .st .connecting, .dial, .st .connected, .st .closed, .uConnectErr, .uConnect] = false := by
  decide +kernel

/-- non-vacuity: the traces of a cut connection, of an outage with dial
    retries and of a lost session are accepted; a report out of order is not -/
example :
    accepts true true [.uConnect, .st .connecting, .dial, .st .connected, .uConnectOk, .st .disconnected, .mError .eof,
      .mAction .createSecureChannel, .st .reconnecting, .dial, .dial, .dial, .mAction .restoreSession, .st .reconnecting,
      .mAction .recreateSession, .st .reconnecting, .mAction .transferSubscriptions, .mAction .restoreSubscriptions,
      .st .connected, .mDone, .uClose, .st .closed, .uCloseEnd, .st .closed] = true ∧
    accepts true false [.uConnect, .st .connecting, .dial, .st .connected, .uConnectOk, .st .disconnected,
      .st .reconnecting, .dial, .st .reconnecting, .st .connected, .uClose, .st .closed, .st .closed, .uCloseEnd] = true ∧
    accepts true true [.uConnect, .st .connecting, .dial, .st .connected, .uConnectOk, .st .reconnecting] = false ∧
    accepts false true [.uConnect, .st .connecting, .dial, .st .connected, .uConnectOk, .st .disconnected, .mError .eof,
      .st .reconnecting] = false := by
  decide +kernel

end Opcua.Props.C25
