import OpcuaModel.Model.Tamper
import OpcuaModel.Model.TamperChan
/-
  C09 — tampered, truncated or forged secured chunks are rejected.

  State: after the `fix:` commit that added the two length checks to
  `verifyAndDecrypt`. Structural theorems hold for EVERY decryption and
  verification function and every byte string; their only hypotheses are
  facts about the parameters, not about the chunk: `headerLength ≥ 2` (it is
  `12 + security header length` in the code) and `headerLength ≤ |r|` (it is the
  number of bytes `MessageChunk.Decode` consumed from `r`).
  `C09_tamper_partial` is conditional on an explicit unforgeability hypothesis.
-/
namespace Opcua.Props.C09
open Opcua Opcua.Tamper

/-- TOTALITY: for ALL byte strings of all lengths, all
    decryption and verification functions, `verifyAndDecrypt` returns data or
    an error; no slice or index expression fails.  `2 ≤ P.H`: the verified bytes
    contain the header, so the two bytes the padding count is read from exist. -/
theorem C09_total (P : Params) (dec : Bytes → Option Bytes) (verify : Bytes → Bytes → Bool)
    (r : Bytes) (hH : 2 ≤ P.H) (hdec : P.H ≤ r.length) :
    (verifyAndDecrypt P dec verify r).isPanic = false := by
  rcases verifyAndDecrypt_cases P dec verify hdec with he | ⟨b, _, hl, _, ⟨s, hp, _⟩ | ⟨pl, _, ⟨_, he⟩ | ⟨_, he⟩⟩⟩
  · rw [he]; rfl
  · -- the count is read from bytes that contain the header
    have := short_of_paddingLength_error hp
    rw [List.length_take_of_le (Nat.sub_le _ _)] at this
    exact absurd this (Nat.not_lt.2 (Nat.le_trans hH (Nat.le_sub_of_add_le hl)))
  · rw [he]; rfl
  · rw [he]; rfl

/-- A chunk whose signature does not verify — anything made or modified without
    the keys, of ANY length — is answered with an error: never data, never a
    panic. -/
theorem C09_rejected (P : Params) (dec : Bytes → Option Bytes) (verify : Bytes → Bytes → Bool)
    (r : Bytes) (hdec : P.H ≤ r.length)
    (hbad : ∀ b, decrypted P dec r = some b →
      verify (b.take (b.length - P.RS)) (b.drop (b.length - P.RS)) = false) :
    verifyAndDecrypt P dec verify r = .err := by
  rcases verifyAndDecrypt_cases P dec verify hdec with he | ⟨b, hd, _, hs, _⟩
  · exact he
  · cases (hbad b hd).symm.trans hs

/-- If data is returned, the signature check was evaluated, and succeeded, over
    ALL bytes of header ‖ plaintext except the signature itself (the two parts
    partition `b`), the header inside the verified message is the header that
    was received, and the returned data is a contiguous piece of the verified
    message that starts right after the header. -/
theorem C09_covered (P : Params) (dec : Bytes → Option Bytes) (verify : Bytes → Bytes → Bool)
    (r p : Bytes) (hdec : P.H ≤ r.length) (h : verifyAndDecrypt P dec verify r = .ok p) :
    ∃ b, decrypted P dec r = some b ∧
      verify (b.take (b.length - P.RS)) (b.drop (b.length - P.RS)) = true ∧
      b.take (b.length - P.RS) ++ b.drop (b.length - P.RS) = b ∧
      P.H + P.RS ≤ b.length ∧
      (b.take (b.length - P.RS)).take P.H = r.take P.H ∧
      ∃ n, p = ((b.take (b.length - P.RS)).drop P.H).take n := by
  obtain ⟨b, pl, hd, hl, hs, -, -, hp⟩ := verifyAndDecrypt_ok hdec h
  refine ⟨b, hd, hs, List.take_append_drop _ _, hl, ?_, _, hp⟩
  rw [List.take_take, Nat.min_eq_left (Nat.le_sub_of_add_le hl), (decrypted_some hdec hd).1]

/-- PARTIAL (hypothesis = unforgeability, stated over the set `sent` of
    plaintext chunks `header ‖ body ‖ padding ‖ signature` the key holder
    produced; `encf` is the encryption whose inverse `dec` is): every chunk the
    receiver accepts is byte-identical on the wire to a chunk the key holder
    sent. Hence any modification of any byte, truncation, extension, or a chunk
    made with other keys is not accepted. -/
theorem C09_tamper_partial (P : Params) (dec : Bytes → Option Bytes) (encf : Bytes → Bytes)
    (verify : Bytes → Bytes → Bool) (sent : List Bytes)
    (hUF : ∀ m s, verify m s = true → m ++ s ∈ sent)
    (hdec : ∀ y x, dec y = some x → y = encf x)
    (r p : Bytes) (hH : P.H ≤ r.length) (h : verifyAndDecrypt P dec verify r = .ok p) :
    ∃ c ∈ sent, r = if P.enc then c.take P.H ++ encf (c.drop P.H) else c := by
  obtain ⟨b, hd, hv, hpart, _⟩ := C09_covered P dec verify r p hH h
  refine ⟨b, hpart ▸ hUF _ _ hv, ?_⟩
  obtain ⟨ht, hw, hraw⟩ := decrypted_some hH hd
  cases he : P.enc with
  | false => exact (hraw he).symm
  | true => rw [if_pos rfl, ht, ← hdec _ _ (hw he), List.take_append_drop]

/-- On a channel whose mode is Sign or SignAndEncrypt the unsecured carve-out is
    never taken — whatever the SecurityPolicyURI field of the configuration says
    (readChunk overwrites it from every incoming OPN chunk before verification)
    and whatever kind of chunk arrives: every chunk goes through verification. -/
theorem C09_secured_mode_never_raw (policyNone isAsym : Bool) (P : Params) (dec : Bytes → Option Bytes)
    (verify : Bytes → Bytes → Bool) (r : Bytes) :
    receive false policyNone isAsym P dec verify r = verifyAndDecrypt P dec verify r := by
  simp [receive, carveOut]

/-- hence, in such a mode, a chunk whose signature does not verify is rejected
    by the whole function -/
theorem C09_secured_mode_rejects (policyNone isAsym : Bool) (P : Params) (dec : Bytes → Option Bytes)
    (verify : Bytes → Bytes → Bool) (r : Bytes) (hdec : P.H ≤ r.length)
    (hbad : ∀ b, decrypted P dec r = some b →
      verify (b.take (b.length - P.RS)) (b.drop (b.length - P.RS)) = false) :
    receive false policyNone isAsym P dec verify r = .err :=
  (C09_secured_mode_never_raw policyNone isAsym P dec verify r).trans (C09_rejected P dec verify r hdec hbad)

/-- the carve-out is taken only when the mode is None, and then exactly for
    policy None or symmetric chunks (an OPN under a real policy is still
    decrypted and verified while the mode reads None) -/
theorem C09_carveout_table (m p a : Bool) :
    carveOut m p a = true ↔ m = true ∧ (p = true ∨ a = false) := by
  cases m <;> cases p <;> cases a <;> simp [carveOut]

/-! ### The channel level: `readChunk` and the retry over the stored instances -/

/-- one instance on one decoded chunk never panics (the header length comes
    from `parseHeaders`, so `16 ≤ H ≤ |f|`) -/
theorem C09_instance_total (st : ChanState) (f : Bytes) (h : Headers) (hp : parseHeaders f = some h)
    (i : Inst) : (instVerify st h i f).isPanic = false := by
  have hb := parseHeaders_bounds f h hp
  unfold instVerify receive
  split
  · rfl
  · exact C09_total _ _ _ _ (Nat.le_trans (by decide) hb.1) hb.2

/-- TOTALITY of `readChunk`: for EVERY received frame (any bytes, any length),
    every channel state, every certificate-derived algorithm: a chunk, an error
    or EOF — never a panic. -/
theorem C09_channel_total (derive : Bytes → Bytes → Option Inst) (uriIsNone : Bytes → Bool)
    (st : ChanState) (f : Bytes) : (readChunk derive uriIsNone st f).2.isPanic = false := by
  rcases readChunk_cases derive uriIsNone st f with he | he | ⟨h, hp, i, _, he⟩
  · rw [he]; rfl
  · rw [he]; rfl
  · rw [he, deliverOf_isPanic]; exact C09_instance_total _ f h hp i

/-- a MSG chunk for a SecureChannelID without stored instances is an error -/
theorem C09_channel_unknown_id (derive : Bytes → Bytes → Option Inst) (uriIsNone : Bytes → Bool)
    (st : ChanState) (f : Bytes) (h : Headers) (hp : parseHeaders f = some h) (hk : h.kind = .msg)
    (hnone : st.instances h.channelID = []) : readChunk derive uriIsNone st f = (st, .err) :=
  readChunk_msg_err hp hk (by rw [hnone]; nofun)

/-- COVERAGE at the channel level: if `readChunk` returns a chunk, then the
    headers decoded and SOME instance the channel may use for this chunk (the
    stored instances of its SecureChannelID for MSG; the opening instance, or the
    algorithm derived from the certificate in the chunk, for OPN) accepted ALL of
    the frame's bytes: `instVerify = ok (sequence header ‖ body)`. Nothing is
    delivered that no instance verified. -/
theorem C09_covered_channel (derive : Bytes → Bytes → Option Inst) (uriIsNone : Bytes → Bool)
    (st st' : ChanState) (f sh body : Bytes)
    (hr : readChunk derive uriIsNone st f = (st', .deliver sh body)) :
    ∃ h, parseHeaders f = some h ∧ ∃ i ∈ candidates derive uriIsNone st h,
      instVerify st' h i f = .ok (sh ++ body) ∧ sh.length = 8 := by
  have := readChunk_cases derive uriIsNone st f
  rw [hr] at this
  rcases this with he | he | ⟨h, hp, i, hi, he⟩
  · cases he
  · cases he
  · exact ⟨h, hp, i, hi, deliverOf_eq_deliver he.symm⟩

/-- … and on a channel in Sign or SignAndEncrypt mode that instance's signature
    check succeeded over all bytes of header ‖ plaintext minus the signature. -/
theorem C09_covered_channel_secured (derive : Bytes → Bytes → Option Inst) (uriIsNone : Bytes → Bool)
    (st st' : ChanState) (f sh body : Bytes) (hm : st'.modeNone = false)
    (hr : readChunk derive uriIsNone st f = (st', .deliver sh body)) :
    ∃ h, parseHeaders f = some h ∧ ∃ i ∈ candidates derive uriIsNone st h, ∃ b,
      decrypted (paramsOf st' h i) i.dec f = some b ∧
      i.verify (b.take (b.length - i.RS)) (b.drop (b.length - i.RS)) = true ∧
      b.take (b.length - i.RS) ++ b.drop (b.length - i.RS) = b := by
  obtain ⟨h, hp, i, hi, hv, _⟩ := C09_covered_channel derive uriIsNone st st' f sh body hr
  rw [instVerify_secured hm] at hv
  obtain ⟨b, hd, hvb, hpart, _⟩ := C09_covered _ _ _ _ _ (parseHeaders_bounds f h hp).2 hv
  exact ⟨h, hp, i, hi, b, hd, hvb, hpart⟩

/-- the retry loop tries the NEWEST stored instance first: what it accepts is
    the result, whatever older instances would say -/
theorem C09_channel_newest_first (st : ChanState) (h : Headers) (f d : Bytes) (older : List Inst) (newest : Inst)
    (hi : st.instances h.channelID = older ++ [newest]) (hv : instVerify st h newest f = .ok d) :
    channelVerify st h none f = .ok d := by
  simp [channelVerify, hi, tryInstances, hv]

/-- in Sign / SignAndEncrypt mode a MSG chunk whose signature verifies under
    NONE of the stored instances of its channel is an error -/
theorem C09_channel_rejected (derive : Bytes → Bytes → Option Inst) (uriIsNone : Bytes → Bool)
    (st : ChanState) (f : Bytes) (h : Headers) (hp : parseHeaders f = some h) (hk : h.kind = .msg)
    (hm : st.modeNone = false)
    (hbad : ∀ i ∈ st.instances h.channelID, ∀ b, decrypted (paramsOf st h i) i.dec f = some b →
      i.verify (b.take (b.length - i.RS)) (b.drop (b.length - i.RS)) = false) :
    readChunk derive uriIsNone st f = (st, .err) :=
  readChunk_msg_err hp hk fun i hi => by
    rw [instVerify_secured hm]
    exact C09_rejected _ _ _ _ (parseHeaders_bounds f h hp).2 (hbad i hi)

/-! ### The three repaired defects: the former witnesses are now rejected -/

/-- was C09.sig-slice-short-chunk: Sign mode, a chunk that decodes but is shorter
    than header + signature → error (before: panic `[-16:]`), for every dec/verify -/
theorem C09_fixed_short_chunk (P : Params) (dec : Bytes → Option Bytes)
    (verify : Bytes → Bytes → Bool) (r : Bytes)
    (he : P.enc = false) (h2 : r.length < P.H + P.RS) :
    verifyAndDecrypt P dec verify r = .err := by
  simp [verifyAndDecrypt, decrypted, he, h2]

/-- the recorded witness: the 16-byte chunk `MSGF | 16 | channel 1 | token 1`
    on a Basic256Sha256 / Sign channel -/
theorem C09_fixed_short_chunk_witness (dec : Bytes → Option Bytes) (verify : Bytes → Bytes → Bool) :
    verifyAndDecrypt { H := 16, RS := 32, S := 32, enc := false } dec verify
      [0x4d, 0x53, 0x47, 0x46, 16, 0, 0, 0, 1, 0, 0, 0, 1, 0, 0, 0] = .err :=
  C09_fixed_short_chunk _ dec verify _ rfl (by decide)

/-- was C09.padding-exceeds-chunk / C09.opn-padding-exceeds-chunk: the signature
    verifies and the padding count read from the chunk exceeds the body → error
    (before: panic in the final slice), in general -/
theorem C09_fixed_padding_exceeds (P : Params) (dec : Bytes → Option Bytes) (verify : Bytes → Bytes → Bool)
    (r b : Bytes) (pl : Nat) (hH : P.H ≤ r.length) (hd : decrypted P dec r = some b)
    (hp : paddingLength P (b.take (b.length - P.RS)) = .ok pl)
    (hbig : b.length - P.RS < P.H + pl) :
    verifyAndDecrypt P dec verify r = .err := by
  rcases verifyAndDecrypt_cases P dec verify hH with
    he | ⟨b', hd', hl, _, ⟨s, hp', _⟩ | ⟨pl', hp', ⟨_, he⟩ | ⟨hle, _⟩⟩⟩
  · exact he
  · cases hd.symm.trans hd'; cases hp.symm.trans hp'
  · exact he
  · -- the count is within the body: excluded by `hbig`
    cases hd.symm.trans hd'; cases hp.symm.trans hp'
    rw [List.length_take_of_le (Nat.sub_le _ _)] at hle
    omega

/-- the recorded witness shape header(16) ‖ seq(8) ‖ 7 body bytes ‖ 0xFF ‖ signature(32) -/
theorem C09_fixed_padding_witness :
    verifyAndDecrypt { H := 16, RS := 32, S := 32, enc := true } some (fun _ _ => true)
      (List.replicate 16 1 ++ List.replicate 15 0 ++ [0xff] ++ List.replicate 32 7) = .err := by
  decide

/-- was the OPN variant with no encrypted part and the signature in the
    thumbprint field: the chunk is shorter than header + signature → error -/
theorem C09_fixed_opn_empty_body (P : Params) (verify : Bytes → Bytes → Bool) (hdr : Bytes)
    (he : P.enc = true) (hH : hdr.length = P.H) (hRS : 0 < P.RS) :
    verifyAndDecrypt P (fun c => if c = [] then some [] else none) verify hdr = .err := by
  have hd : decrypted P (fun c => if c = [] then some [] else none) hdr = some hdr := by
    simp [decrypted, he, ← hH]
  rcases verifyAndDecrypt_cases P (fun c => if c = [] then some [] else none) verify
    (Nat.le_of_eq hH.symm) with h | ⟨b, hd', hl, _⟩
  · exact h
  · cases hd.symm.trans hd'
    omega

/-- the two parameter hypotheses of `C09_total` are needed in the MODEL (the
    code never has such parameters: `headerLength ≥ 12`, and `r` is the slice the
    headers were decoded from) -/
theorem C09_parameter_hypotheses_needed :
    verifyAndDecrypt { H := 0, RS := 2, S := 2, enc := true } some (fun _ _ => true) [1, 2] = .panic .padByte ∧
    verifyAndDecrypt { H := 1, RS := 2, S := 300, enc := true } some (fun _ _ => true) [9, 1, 2] = .panic .padByte2 ∧
    verifyAndDecrypt { H := 16, RS := 2, S := 2, enc := true } some (fun _ _ => true) [1, 2, 3] = .panic .hdr := by
  decide

/-! ### Non-vacuity -/

/-- a well-formed SignAndEncrypt chunk is accepted and yields exactly the
    sequence header and body (padding and signature stripped) -/
example :
    verifyAndDecrypt { H := 16, RS := 32, S := 32, enc := true } some (fun _ s => s == List.replicate 32 7)
      (List.replicate 16 1 ++ List.replicate 8 2 ++ [5, 5, 5] ++ [4, 4, 4, 4, 4] ++ List.replicate 32 7)
    = .ok (List.replicate 8 2 ++ [5, 5, 5]) := by decide

/-- flipping a signature byte of that chunk gives an error -/
example :
    verifyAndDecrypt { H := 16, RS := 32, S := 32, enc := true } some (fun _ s => s == List.replicate 32 7)
      (List.replicate 16 1 ++ List.replicate 8 2 ++ [5, 5, 5] ++ [4, 4, 4, 4, 4] ++ List.replicate 31 7 ++ [6])
    = .err := by decide

end Opcua.Props.C09
