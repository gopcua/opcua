import OpcuaModel.Model.Subs
import OpcuaModel.Model.SubsLemmas
import OpcuaModel.Gen.SubsFacts
import OpcuaModel.Model.Republish
import OpcuaModel.Model.RepublishLemmas
/-
  C26 — subscriptions survive reconnects and notifications are acknowledged once.

  (a) acknowledgements: theorems over every publish history (list of
      `PubEvent`s: responses with arbitrary result lists, errors) of the model of
      `handleAcks` / `handleNotification` / `publish`.
  (b) reconnect: the action loop of `Client.monitor` restricted to the
      subscription state.  The full statement "after a successful reconnect all
      subscriptions are there with their items and the publish loop runs" holds for
      every reconnect that keeps the session (repaired) and, under explicit guards, for
      the transfer / recreate paths; it is still false when a recreate fails (the
      counterexamples are theorems).
  The generated facts (`Gen.Subs`) tie the tables of the model to client.go /
  client_sub.go.
-/
namespace Opcua.Props.C26
open Opcua Opcua.Subs

/-! ### tie to the source: generated tables -/

/-- the model's action constants are the `reconnectAction` constants in iota order -/
theorem C26_gen_actions : Action.all.map Action.goName = Gen.Subs.actionNames ∧
    ∀ a ∈ Action.all, Action.all[a.code]? = some a := ⟨rfl, by decide⟩

/-- every case of `switch action` assigns exactly the targets the model's `step` uses -/
theorem C26_gen_targets :
    Gen.Subs.actionTargets.length = 6 ∧
    ∀ a ∈ Action.all, a ≠ .none →
      Gen.Subs.actionTargets.lookup a.goName = some ((targets a).map Action.goName) := by decide +kernel

/-- the error classification of `monitor` is `initialAction` -/
theorem C26_gen_initial :
    Gen.Subs.initialActions = ErrKind.all.map fun k => (k.goName, (initialAction k).goName) := rfl

/-- `handleAcks` drops an acknowledgement exactly for the three final status codes,
    re-queues it otherwise, and resets on a length mismatch; the loop is resumed when
    `activeSubs > 0` or subscriptions are still registered -/
theorem C26_gen_acks :
    Gen.Subs.ackFinal = [AckRes.ok.goName, AckRes.subInvalid.goName, AckRes.seqUnknown.goName] ∧
    Gen.Subs.ackRetryDefault = true ∧
    Gen.Subs.ackResetCond = "len(c.pendingAcks) != len(res)" ∧
    Gen.Subs.resumeConds = ["activeSubs > 0", "len(c.SubscriptionIDs()) > 0"] := ⟨rfl, rfl, rfl, rfl⟩

/-- `step` only ever moves to one of the listed targets -/
theorem C26_step_targets (m m' : Mon) (o : Out) (h : step m o = some m') :
    m'.action ∈ targets m.action := by
  unfold step at h
  -- per case of the switch: every branch assigns an action of that case's row
  split at h <;> rename_i ha <;> simp only [ha, targets] <;> grind

/-! ### (a) acknowledgements -/

/-- a data notification of a registered subscription is acknowledged in the very
    next PublishRequest -/
theorem C26_acks_next (c : Client) (e : PubEvent) (a : Ack) (h : received c e = some a) :
    a ∈ requestAcks (onEvent c e) := by
  simp [requestAcks, pending_onEvent, h]

/-- an acknowledgement stays in every following request as long as publish calls
    fail (timeouts, errors): nothing is lost before the server answered -/
theorem C26_acks_kept_on_error (c : Client) (a : Ack) (n : Nat) (h : a ∈ requestAcks c) :
    ∀ r ∈ requests c (List.replicate n .err), a ∈ r := by
  intro r hr
  rw [requests_errors] at hr
  rw [List.eq_of_mem_replicate hr]
  exact h

/-- `handleAcks` never invents or reorders acknowledgements -/
theorem C26_acks_sublist (p : List Ack) (r : List AckRes) : (handleAcks p r).Sublist p :=
  handleAcks_sublist p r

/-- with a matching result count an acknowledgement is retried iff some position
    that carries it was answered with a non-final status -/
theorem C26_acks_retry_iff (p : List Ack) (r : List AckRes) (hl : p.length = r.length) (a : Ack) :
    a ∈ handleAcks p r ↔ ∃ i, ∃ (h₁ : i < p.length) (h₂ : i < r.length), p[i] = a ∧ r[i].retry = true := by
  rw [handleAcks, if_neg (by simp [hl])]
  exact mem_keepNotAcked_iff p r a

/-- exactly once: against a server that answers every acknowledgement, the
    request that follows an event acknowledges exactly the notification of that
    event (if any) and nothing else -/
theorem C26_acks_exactly_once (c : Client) (e : PubEvent) (hw : wellAnswered c e = true) :
    requestAcks (onEvent c e) = (received c e).toList := by
  rw [requestAcks, pending_onEvent, kept_wellAnswered hw, List.nil_append]

/-- once the server has answered the acknowledgements of a request (Good,
    BadSequenceNumberUnknown or BadSubscriptionIDInvalid for each), none of them is
    ever sent again — unless the same notification is received again -/
theorem C26_acks_never_again (c : Client) (e : PubEvent) (es : List PubEvent) (a : Ack)
    (hw : wellAnswered c e = true) (hin : a ∈ requestAcks c)
    (hnew : received c e ≠ some a)
    (hlater : ∀ c' e', (c', e') ∈ statesOf (onEvent c e) es → received c' e' ≠ some a) :
    ∀ r ∈ requests (onEvent c e) es, a ∉ r := by
  -- `hin` belongs to the statement and is not needed: whether or not `a` was in the answered
  -- request, it is not in the next one
  have _ := hin
  refine absent_stays_absent es _ ?_ hlater
  show a ∉ requestAcks (onEvent c e)
  rw [C26_acks_exactly_once c e hw, Option.mem_toList]
  exact hnew

/-! ### (b) reconnect -/

/-- (formerly the finding C26.restore-session-no-resume, repaired.)  The TCP connection is
    cut, the session is still valid on the server: createSecureChannel → restoreSession →
    restoreSubscriptions runs with empty work lists, `activeSubs` stays 0, and the publish loop
    is resumed because the subscription is still registered. -/
theorem C26_restore_session_resumes :
    (run (onError [⟨1, 1⟩] .eof) [.dialed, .restoreRes false true true, .restoreSubsRes [] []]).map finish
      = some { action := .none, subs := [⟨1, 1⟩], toRepublish := [], toRecreate := [],
               activeSubs := 0, connected := true, loop := .running } := by decide

/-- every reconnect that keeps the session (`restoreSubscriptions` entered with empty work
    lists) ends Connected with the registry untouched — every subscription keeps all its
    items — and the publish loop running if anything is registered (with an empty registry
    the loop stays as it was: paused) -/
theorem C26_restore_path_resumes (m m' : Mon) (rep : List Bool) (rec : List Recreate)
    (ha : m.action = .restoreSubscriptions) (h1 : m.toRepublish = []) (h2 : m.toRecreate = [])
    (hs : step m (.restoreSubsRes rep rec) = some m') :
    m'.connected = true ∧ m'.action = .none ∧ m'.subs = m.subs ∧ m'.activeSubs = 0 ∧
    (m.subs ≠ [] → (finish m').loop = .running) ∧ (m.subs = [] → (finish m').loop = m.loop) := by
  have := step_restoreSubs ha hs
  simp only [h1, h2, republishAll_nil, List.append_nil, recreateAll_nil, List.length_nil] at this
  subst this
  exact ⟨rfl, rfl, rfl, rfl, fun hne => by simp [finish, hne], fun he => by simp [finish, he]⟩

/-- whichever path the reconnect took: if it ends with a subscription registered, the
    publish loop is running -/
theorem C26_connected_with_subs_runs (m : Mon) (h : m.subs ≠ []) : (finish m).loop = .running := by
  simp [finish, h]

/-- FINDING (C26.recreate-failure-ignored): server restart with two subscriptions.
    The ids are recreated in map order 2, 1; the new server hands out id 1 for the
    first one while the client still has its old subscription 1 registered:
    registerSubscription refuses, the error only `continue`s the loop, the client
    reports Connected and one subscription is gone. -/
theorem C26_finding_recreate_failure_ignored :
    (run (onError [⟨1, 1⟩, ⟨2, 3⟩] .eof)
      [.dialed, .restoreRes false false true, .recreateRes true true true,
       .transferRes [2, 1] .unsupported,
       .restoreSubsRes [] [.created 1 true, .created 2 true]]).map finish
      = some { action := .none, subs := [⟨2, 1⟩], toRepublish := [], toRecreate := [2, 1],
               activeSubs := 1, connected := true, loop := .running } := by decide

/-- a failing CreateSubscription during the recreate is swallowed the same way -/
theorem C26_finding_recreate_create_error_ignored :
    (run (onError [⟨1, 2⟩] .eof)
      [.dialed, .restoreRes false false true, .recreateRes true true true,
       .transferRes [1] .failed, .restoreSubsRes [] [.createFail]]).map finish
      = some { action := .none, subs := [], toRepublish := [], toRecreate := [1],
               activeSubs := 0, connected := true, loop := .paused } := by decide

/-- PARTIAL (recreate path): all registered ids are to be recreated, every
    CreateSubscription succeeds, the server never hands out an id that collides
    (`Fresh`) and all items are recreated.
    Then every subscription is registered again (under the new ids) with all its
    items, and the publish loop is resumed. -/
theorem C26_restore_partial_recreate (m m' : Mon) (nids : List Nat)
    (ha : m.action = .restoreSubscriptions) (h1 : m.toRepublish = [])
    (hperm : m.toRecreate.Perm (m.subs.map (·.id))) (hnd : (m.subs.map (·.id)).Nodup)
    (hlen : nids.length = m.toRecreate.length)
    (hfresh : Fresh m.toRecreate nids [])
    (hne : m.subs ≠ [])
    (hs : step m (.restoreSubsRes [] (nids.map fun n => .created n true)) = some m') :
    m'.connected = true ∧ (finish m').loop = .running ∧ m'.activeSubs = m.subs.length ∧
    (m'.subs.map (·.items)).Perm (m.subs.map (·.items)) ∧ (m'.subs.map (·.id)).Perm nids := by
  have := step_restoreSubs ha hs
  obtain ⟨subs', hrec, hpid, hpit⟩ := recreateAll_ok m.toRecreate nids [] m.subs 0
    (by simpa using hperm.symm) (by simpa using hperm.symm.nodup hnd) hlen.symm hfresh
  simp only [h1, republishAll_nil, List.append_nil, List.length_nil, hrec] at this
  subst this
  have hl : m.toRecreate.length = m.subs.length := by simpa using hperm.length_eq
  have hpos : 0 < m.subs.length := List.length_pos_iff.mpr hne
  refine ⟨rfl, ?_, by simp [hl], hpit, by simpa using hpid⟩
  simp [finish, hl, hpos]

/-- the guard is the exact boundary: the collision of the finding violates `Fresh` -/
theorem C26_finding_collision_not_fresh : ¬ Fresh [2, 1] [1, 2] [] := by
  simp [Fresh]

/-- PARTIAL (transfer + republish path): every subscription was transferred and
    republished.  The registry is untouched and the loop is resumed. -/
theorem C26_restore_partial_republish (m m' : Mon)
    (ha : m.action = .restoreSubscriptions) (h2 : m.toRecreate = [])
    (hne : m.toRepublish ≠ [])
    (hs : step m (.restoreSubsRes (m.toRepublish.map fun _ => true) []) = some m') :
    m'.connected = true ∧ (finish m').loop = .running ∧ m'.subs = m.subs ∧
    m'.activeSubs = m.toRepublish.length := by
  have := step_restoreSubs ha hs
  simp only [h2, republishAll_all_ok, List.append_nil, recreateAll_nil] at this
  subst this
  have : 0 < m.toRepublish.length := List.length_pos_iff.mpr hne
  simp [finish, this]

/-- the work lists set up by `transferSubscriptions` cover every registered id once -/
theorem C26_transfer_covers (m m' : Mon) (ids : List Nat) (r : Transfer)
    (hr : ∀ bad, r = .results bad → bad.length = ids.length)
    (hs : step m (.transferRes ids r) = some m') :
    (m'.toRepublish ++ m'.toRecreate).Perm ids ∧ ids.length = m.subs.length ∧
    (∀ s ∈ m.subs, s.id ∈ ids) := by
  cases hm : m.action <;>
    simp only [step, hm, Option.ite_none_right_eq_some, Option.some.injEq, reduceCtorEq] at hs
  obtain ⟨⟨hlen, _, hall⟩, rfl⟩ := hs
  exact ⟨transferLists_perm hr, hlen, fun s h => by simpa using List.all_eq_true.mp hall s h⟩

/-! ### (c) transfer + republish -/

/-- Nothing is skipped: if the queue holds a gap-free run from the client's `nextSeq` on
    (everything sent after the last message the client received is still there), the loop
    ends normally and hands every held notification from `nextSeq` on to the application. -/
theorem C26_republish_nothing_skipped (q avail : List Nat) (ha : avail = [] ∨ ∀ x, x ∈ avail ↔ x ∈ q)
    (n fuel : Nat) (hf : (q.filter (fun x => decide (n ≤ x))).length < fuel) (hc : Rep.contiguousFrom q n) :
    (Rep.republish avail (Rep.honest q) fuel n).outcome = .done ∧
    ∀ s ∈ q, n ≤ s → s ∈ (Rep.republish avail (Rep.honest q) fuel n).delivered := by
  have hd := Rep.loop_terminates q avail fuel n [] [] hf
  obtain ⟨k, h1, _, _, h4⟩ := Rep.republish_walk q avail ha fuel n
  refine ⟨hd, fun s hs hns => ?_⟩
  rw [h1, List.mem_range'_1]
  -- the loop stopped at `n + k`, which the queue does not hold; a held `s` at or beyond it would,
  -- the queue being gap-free, put `n + k` into the queue
  exact ⟨hns, Nat.lt_of_not_le fun hle => h4 hd (hc s hs hns (n + k) (Nat.le_add_right n k) hle)⟩

/-- Nothing twice, nothing old: the delivered sequence numbers are strictly increasing,
    all are in the server's queue and none is below `nextSeq` (what the client had received
    before the connection loss is not delivered again). -/
theorem C26_republish_no_duplicates (q avail : List Nat) (ha : avail = [] ∨ ∀ x, x ∈ avail ↔ x ∈ q)
    (n fuel : Nat) :
    (Rep.republish avail (Rep.honest q) fuel n).delivered.Pairwise (· < ·) ∧
    ∀ s ∈ (Rep.republish avail (Rep.honest q) fuel n).delivered, n ≤ s ∧ s ∈ q := by
  obtain ⟨k, h1, _, h3, _⟩ := Rep.republish_walk q avail ha fuel n
  rw [h1]
  exact ⟨List.pairwise_lt_range', fun s hs => ⟨(List.mem_range'_1.mp hs).1, h3 s hs⟩⟩

/-- after the loop the subscription expects the first sequence number the server does not hold -/
theorem C26_republish_next (q avail : List Nat) (ha : avail = [] ∨ ∀ x, x ∈ avail ↔ x ∈ q)
    (n fuel : Nat) (hf : (q.filter (fun x => decide (n ≤ x))).length < fuel) :
    (Rep.republish avail (Rep.honest q) fuel n).nextSeq ∉ q ∧
    n ≤ (Rep.republish avail (Rep.honest q) fuel n).nextSeq := by
  obtain ⟨k, _, h2, _, h4⟩ := Rep.republish_walk q avail ha fuel n
  rw [h2]
  exact ⟨h4 (Rep.loop_terminates q avail fuel n [] [] hf), Nat.le_add_right n k⟩

/-- FINDING (C26.republish-gives-up-at-gap).  The guard `contiguousFrom` is needed: when the
    message the client expects next (2) has left the server's queue but later ones (3) are
    still held, the first RepublishRequest is answered BadMessageNotAvailable and the loop
    returns: the held notification is never delivered. -/
theorem C26_finding_republish_gap :
    Rep.republish [3] (Rep.honest [3]) 10 2 = ⟨[], [2], 2, .done⟩ ∧ ¬ Rep.contiguousFrom [3] 2 := by
  refine ⟨by decide, ?_⟩
  intro h
  have := h 3 (by simp) (by omega) 2 (by omega) (by omega)
  simp at this

/-- (formerly the finding C26.republished-never-acknowledged, repaired.)  Every notification
    received through Republish is queued for acknowledgement: the next PublishRequest carries
    what was pending before plus exactly one acknowledgement per republished message, in the
    order of delivery. -/
theorem C26_republished_acked (c : Client) (id : Nat) (s : SubSeq) (r : Rep.Result)
    (hs : findSub c.subs id = some s) :
    requestAcks (Rep.intoClient c id r) = requestAcks c ++ r.delivered.map (fun q => ⟨id, q⟩) := by
  unfold Rep.intoClient
  rw [hs]
  simp only [requestAcks]
  split
  · rename_i h; simp [h]
  · rfl

/-- Exactly once, republished notifications included: against a server that answers from its
    queue, the acknowledgements queued by the republish loop are pairwise different (one per
    message), and once the server has answered the request that carries them — Good /
    unknown for each — the following request acknowledges only what that response delivered:
    each republished notification is acknowledged in exactly one PublishRequest. -/
theorem C26_republished_acks_exactly_once (c : Client) (id : Nat) (s : SubSeq) (q avail : List Nat)
    (n fuel : Nat) (hs : findSub c.subs id = some s) (hp : c.pending = []) (e : PubEvent)
    (hw : wellAnswered (Rep.intoClient c id (Rep.republish avail (Rep.honest q) fuel n)) e = true) :
    let c' := Rep.intoClient c id (Rep.republish avail (Rep.honest q) fuel n)
    requestAcks c' = (Rep.republish avail (Rep.honest q) fuel n).delivered.map (fun x => ⟨id, x⟩) ∧
    (requestAcks c').Nodup ∧
    requestAcks (onEvent c' e) = (received c' e).toList := by
  have h1 := C26_republished_acked c id s (Rep.republish avail (Rep.honest q) fuel n) hs
  simp only [requestAcks, hp, List.nil_append] at h1
  refine ⟨h1, ?_, C26_acks_exactly_once _ e hw⟩
  rw [requestAcks, h1]
  exact (Rep.republish_sorted q avail fuel n).map (fun x => (⟨id, x⟩ : Ack))
    fun a b h he => Nat.ne_of_lt h (Ack.mk.inj he).2

/-- the former counterexample: after republishing 1/2 and 1/3 the next request acknowledges both -/
example :
    requestAcks (Rep.intoClient ⟨[], [⟨1, 1, 2⟩]⟩ 1 (Rep.republish [2, 3] (Rep.honest [2, 3]) 10 2))
      = [⟨1, 2⟩, ⟨1, 3⟩] := by decide

/-- `republishOk` on the four outcomes the code can return (`.running` is only the model's fuel
    bound), spelt out so that a change of the table shows up as a failing theorem -/
theorem C26_republish_fallback :
    Rep.republishOk .done = true ∧ Rep.republishOk .failSession = true ∧
    Rep.republishOk .failSub = false ∧ Rep.republishOk .failOther = false := by decide

/-- non-vacuity: two lost messages are republished with two requests (the transfer result
    says 4 is not available, so no third request is sent) -/
example : Rep.republish [2, 3] (Rep.honest [2, 3]) 10 2 = ⟨[2, 3], [2, 3], 4, .done⟩ := by decide

/-- non-vacuity: the good recreate path (server restart, one subscription) -/
example :
    (run (onError [⟨1, 2⟩] .eof)
      [.dialed, .restoreRes false false true, .recreateRes true true true,
       .transferRes [1] .unsupported, .restoreSubsRes [] [.created 1 true]]).map finish
      = some { action := .none, subs := [⟨1, 2⟩], toRepublish := [], toRecreate := [1],
               activeSubs := 1, connected := true, loop := .running } := by decide

/-- non-vacuity: acknowledgement rounds -/
example :
    requests ⟨[], [⟨1, 0, 1⟩]⟩
      [.resp ⟨[], 1, 1, 1⟩, .err, .resp ⟨[.other], 1, 2, 1⟩, .resp ⟨[.ok, .seqUnknown], 1, 2, 0⟩, .resp ⟨[], 1, 3, 1⟩]
      = [[], [⟨1, 1⟩], [⟨1, 1⟩], [⟨1, 1⟩, ⟨1, 2⟩], []] := by decide

end Opcua.Props.C26
