import OpcuaModel.Model.CodecSafe
import OpcuaModel.Gen.Types
/-
  C02 — decoding arbitrary bytes is safe: no panic, no hang, bounded memory.

  The decoder model (Model/Codec.lean) makes every unsafe outcome of the Go
  decoder explicit: `panicNegLen` (`reflect.MakeSlice: negative len` in
  `Variant.Decode`), `panicSlice` / `panicIndex` / `diverge` (`split` run on a
  dimension list whose `int32` product wrapped), `depth` (nesting of coder calls
  beyond `fuel`, i.e. Go stack depth), `alloc` (more than `env.limit` slice
  elements requested from `reflect.MakeSlice` / `make` / `append`).

  Since the repairs of C02.variant-neg-len and C02.variant-dims-overflow the
  decoder never panics and never diverges (`C02_safe`, for every type and every
  byte string).  What remains false is the memory / depth part of the property:
  each remaining way in which it fails is a finding with a machine-checked
  witness below (pre-allocation from a length prefix, array amplification,
  rows built by `split` on deep dimension lists, unbounded nesting).
-/
namespace Opcua.Props.C02
open Opcua Opcua.Codec

/-- the decoder as the real code runs it (optionally with an allocation budget for the memory findings) -/
def env (limit : Option Nat := none) : Env := { limit := limit, exts := Gen.extObjTypes }

/-- lets a witness name its failure as a `Bool`, which `decide +kernel` evaluates -/
def failIs {α : Type} (r : Res α) (f : Fail) : Bool :=
  match r with
  | .fail g => g == f
  | _ => false

def isPanicOrDiverge : Fail → Bool
  | .panicNegLen | .panicSlice | .panicIndex | .panicNilValue | .panicNilPtr | .diverge | .illTyped => true
  | _ => false

/-- **Safety of the decoder**, for every call-depth budget, allocation budget, type and input: the outcome is a
    value, an error, or an exceeded budget — never a panic, never non-termination. -/
theorem C02_safe (limit : Option Nat) (fuel : Nat) (t : Ty) (b : Bytes) (a : Nat) :
    match decode (env limit) fuel t ⟨b, a⟩ with
    | .ok _ _ => True
    | .fail f => isPanicOrDiverge f = false := by
  cases h : decode (env limit) fuel t ⟨b, a⟩ with
  | ok v s => trivial
  | fail f => rcases (decode_safe (env limit) fuel t).fail h with rfl | rfl | rfl <;> rfl

/-- **The depth budget is monotone.**  Whatever the decoder returns within call depth `fuel` (a value, an error, an
    exceeded allocation budget) it returns with every larger depth: only the outcome `depth` depends on the budget,
    so "the result of decoding" is well defined as the result at any sufficient depth. -/
theorem C02_depth_monotone (limit : Option Nat) (fuel k : Nat) (t : Ty) (b : Bytes) (a : Nat)
    (h : decode (env limit) fuel t ⟨b, a⟩ ≠ .fail .depth) :
    decode (env limit) (fuel + k) t ⟨b, a⟩ = decode (env limit) fuel t ⟨b, a⟩ :=
  decode_mono (env limit) fuel k t ⟨b, a⟩ h

/-- the base of the depth budget: at call depth 0 the outcome is `depth`, for every type and input -/
theorem C02_depth_zero (limit : Option Nat) (t : Ty) (b : Bytes) : decode (env limit) 0 t ⟨b, 0⟩ = .fail .depth := rfl

/-! ### repaired defects and remaining findings (each witness is replayed on the real code by the runner) -/

/-- repaired (was finding C02.variant-neg-len): `Variant.Decode([86 fe ff ff ff])`, array length −2, is an error;
    it used to reach `reflect.MakeSlice` and panic -/
theorem C02_fixed_variant_neg_len :
    decode (env) 2 .variant ⟨[0x86, 0xfe, 0xff, 0xff, 0xff], 0⟩ = .fail .err := rfl

/-- every array length below −1 is an error, whatever the type id and whatever follows -/
theorem C02_fixed_variant_neg_len_general (mask n : Nat) (rest : Bytes) (fuel : Nat)
    (hm : mask < 256) (ht : 1 ≤ mask % 64 ∧ mask % 64 ≤ 25) (harr : has mask 0x80 = true)
    (hn : 2147483648 ≤ n ∧ n < 4294967295) :
    decode (env) (fuel + 1) .variant ⟨leBytes 1 mask ++ leBytes 4 n ++ rest, 0⟩ = .fail .err := by
  have h0 : ¬ mask % 64 = 0 := by omega
  have h25 : ¬ mask % 64 > 25 := by omega
  have h1 : ¬ toInt32 n > maxVariantArrayLength := by simp only [toInt32, maxVariantArrayLength]; split <;> omega
  have h2 : toInt32 n < -1 := by simp only [toInt32]; split <;> omega
  simp only [decode, decVariant]
  rw [List.append_assoc, (reads_readUInt 1 mask (by omega)).step]
  simp only [h0, h25, harr, not_true_eq_false, if_false]
  rw [(reads_readUInt 4 n (by omega)).step]
  simp only [h1, h2, if_true, if_false]
  rfl

/-- repaired (was finding C02.variant-dims-overflow): dimensions [6700417, 641] (product 2^32 + 1) with array length 1
    are rejected; with the `int32` product the check passed and `split` looped forever with step 0 -/
theorem C02_fixed_variant_dims_overflow_hang :
    decode (env) 2 .variant ⟨[0xc6, 1,0,0,0, 7,0,0,0, 2,0,0,0, 0x81,0x3d,0x66,0x00, 0x81,0x02,0,0], 0⟩ = .fail .err := rfl

/-- repaired: dimensions [3, 1431655769] (product 2^32 + 11) with array length 11 are rejected; `split` used to slice
    [9:12] out of 11 elements and panic -/
theorem C02_fixed_variant_dims_overflow_panic :
    failIs (decode (env) 2 .variant ⟨[0xc3, 11,0,0,0, 1,2,3,4,5,6,7,8,9,10,11, 2,0,0,0, 3,0,0,0, 0x59,0x55,0x55,0x55], 0⟩) .err = true := by
  decide +kernel

/-- repaired: a null array (length −1) cannot have dimensions (their `int32` product could wrap to −1:
    3·5·17·257·65537 = 2^32 − 1) -/
theorem C02_fixed_variant_nil_array_dims :
    failIs (decode (env) 2 .variant ⟨[0xc6, 0xff,0xff,0xff,0xff, 5,0,0,0, 3,0,0,0, 5,0,0,0, 17,0,0,0, 1,1,0,0, 1,0,1,0], 0⟩) .err = true := by
  decide +kernel

/-- `ua.Decode([ff ff ff 7f], *[]*ReadValueID)`: `decodeSlice` asks `reflect.MakeSlice` for 2^31−1 elements before reading any -/
theorem C02_finding_slice_prealloc :
    decode (env (some 16777216)) 3 (.slice (.ptr Gen.T_ReadValueID)) ⟨[0xff, 0xff, 0xff, 0x7f], 0⟩ = .fail .alloc := rfl

/-- the request is the attacker-chosen prefix, whatever (even nothing) follows: for every element type, every
    length prefix up to 2^31−1 above the budget exceeds it with 4 bytes of input -/
theorem C02_finding_slice_prealloc_general (l n : Nat) (e : Ty) (rest : Bytes) (fuel : Nat)
    (hn : n ≤ 2147483647) (hl : l < n) :
    decode (env (some l)) (fuel + 1) (.slice e) ⟨leBytes 4 n ++ rest, 0⟩ = .fail .alloc := by
  have h1 : ¬ n = null32 := by unfold null32; omega
  have h2 : ¬ n > maxInt32 := by unfold maxInt32; omega
  simp only [decode, decSlice]
  rw [(reads_readUInt 4 n (by omega)).step]
  simp [h1, h2, requestAt, request, Env.forSite, env, hl]

/-- repaired (was finding C02.variant-dims-prealloc): a dimensions length of 2^31−1 with nothing behind it is an error
    before anything is allocated (`make([]int32, 2^31−1)` used to come first) -/
theorem C02_fixed_variant_dims_prealloc :
    decode (env (some 0)) 2 .variant ⟨[0xc6, 0,0,0,0, 0xff,0xff,0xff,0x7f], 0⟩ = .fail .err := rfl

/-- the dimension list never asks for more than a quarter of the bytes that are left -/
theorem C02_dims_request_bounded (e : Env) (dl : Nat) (s s' : St) (r : Option (List Nat))
    (h : decDimList e dl s = .ok r s') : 4 * dl ≤ s.buf.length := by
  by_cases hc : dl > s.buf.length / 4
  · simp [decDimList, checkDimCount, hc] at h
  · omega

/-- Variant arrays: 65535 elements are requested per 5 bytes of input, and the requests nest
    (10 bytes → 131070 elements; a chain of k headers keeps k·65535 elements alive) -/
theorem C02_finding_variant_array_amplification :
    decode (env (some 131069)) 3 .variant ⟨[0x98, 0xff,0xff,0,0, 0x98, 0xff,0xff,0,0], 0⟩ = .fail .alloc ∧
    decode (env (some 131070)) 3 .variant ⟨[0x98, 0xff,0xff,0,0, 0x98, 0xff,0xff,0,0], 0⟩ = .fail .err := ⟨rfl, rfl⟩

/-- a Variant of `n` one-byte elements with the `k` dimensions [n, 1, …, 1] (exact product, so it passes every check) -/
def dimsDepthInput (n k : Nat) : Bytes :=
  [0xc3] ++ leBytes 4 n ++ List.replicate n 7 ++ leBytes 4 k ++ leBytes 4 n ++ (List.replicate (k - 1) (leBytes 4 1)).flatten

/-- `split` builds one row per element on every level: for dimensions [n, 1, …, 1] it requests about n·k rows
    (plus n elements and k dimensions) — quadratic in the input.  3 elements with 4 dimensions (28 bytes): 16 elements
    requested; 24 elements with 24 dimensions (129 bytes): more than 576.  On the real code 20 kB take 41 s and
    allocate 1.1 GB. -/
theorem C02_finding_variant_dims_depth :
    failIs (decode (env (some 15)) 2 .variant ⟨dimsDepthInput 3 4, 0⟩) .alloc = true ∧
    failIs (decode (env (some 16)) 2 .variant ⟨dimsDepthInput 3 4, 0⟩) .alloc = false ∧
    (dimsDepthInput 24 24).length = 129 ∧
    failIs (decode (env (some 576)) 2 .variant ⟨dimsDepthInput 24 24, 0⟩) .alloc = true := by
  decide +kernel

/-- nesting is not bounded: `n` bytes 0x18 (a Variant holding a Variant holding …) need call depth above `n`,
    for every `n` — megabytes of them overflow the Go stack (fatal, not recoverable) -/
theorem C02_finding_unbounded_nesting (limit : Option Nat) (n : Nat) (a : Nat) :
    decode (env limit) n .variant ⟨List.replicate n 0x18, a⟩ = .fail .depth := by
  induction n with
  | zero => rfl
  | succ n ih =>
    have r : Reads (readUInt 1) [0x18] 24 := reads_readUInt 1 24 (by decide)
    simp only [List.replicate_succ, decode, decVariant]
    rw [← List.singleton_append, r.step]
    -- type id 24 (Variant) without the array bit: the value is read by the recursive call
    have hv : decVarValue (decode (env limit) n) (24 % 64) = decode (env limit) n .variant := rfl
    simp only [show (24 % 64 = 0) = False by decide, show (24 % 64 > 25) = False by decide, if_false,
      show has 24 0x80 = false by decide, Bool.false_eq_true, not_false_eq_true, if_true, hv, Dec.bind_apply, ih]

/-! ### non-vacuity: valid input decodes -/

example : decode (env) 3 .variant ⟨[0xc6, 4,0,0,0, 1,0,0,0, 2,0,0,0, 3,0,0,0, 4,0,0,0, 2,0,0,0, 2,0,0,0, 2,0,0,0], 0⟩
    = .ok (.variant 0xc6 4 2 (some [2, 2]) ⟨6, 2⟩ (.slice false [.slice false [.int 1, .int 2], .slice false [.int 3, .int 4]])) ⟨[], 0⟩ := by
  -- with smart unfolding the elaborator evaluates the decoded element list again at every use in `split`
  set_option smartUnfolding false in rfl

end Opcua.Props.C02
