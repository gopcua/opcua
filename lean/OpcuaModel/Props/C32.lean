import OpcuaModel.Model.SrvIdsLemmas
/-
  C32 — server subscription and monitored item ids are unique and session-scoped.

  `SrvIds.step` mirrors CreateSubscription, DeleteSubscriptions (+ the spawned
  `DeleteSubscription(id)` calls as explicit `apply` steps), CreateMonitoredItems,
  SetMonitoringMode, DeleteMonitoredItems (tied by the C32 correspondence run
  against the real service handlers, with the background calls scheduled
  through `verifPoint`).

  After the repairs (a subscription id counter that only grows; the two item
  services test the id and the owner first and skip the entry) the property
  holds at full strength, below the 2^32 wrap of the two counters:
    * every subscription / monitored item id handed out is new — not in use and
      not named by any pending background deletion (`C32_sub_id_fresh`,
      `C32_item_ids_fresh`), `SubInv` is kept by every step (`C32_subinv_step`) and `ItemInv` by
      CreateMonitoredItems (`C32_item_ids_fresh`), so a late `DeleteSubscription(id)` can never hit a
      subscription created after it was spawned (`C32_pending_cannot_hit_new`);
    * DeleteSubscriptions, CreateMonitoredItems, SetMonitoringMode and
      DeleteMonitoredItems change nothing that belongs to another session,
      whatever ids they name (`…_scoped`), and refuse unknown and foreign ids
      entry by entry with no effect (`…_refused`).
  The histories of the four former findings are restated for the repaired code
  (`C32_repaired_*`, the two foreign-item findings in one).
-/
namespace Opcua.Props.C32
open Opcua.SrvIds

/-! ### uniqueness -/

/-- monitored item ids: below the wrap of the 32-bit counter, the ids handed out
    by one CreateMonitoredItems are pairwise distinct, non-zero and distinct from
    every id in use, and the invariant (ids in use are distinct and in 1..counter) is kept -/
theorem C32_item_ids_fresh (st st' : St) (sess sub n : Nat) (ids : List Nat)
    (hinv : ItemInv st) (hw : st.itemCtr + n < 4294967296)
    (h : createItems st sess sub n = (.itemIds ids, st')) :
    ids.Nodup ∧ (∀ i ∈ ids, i ∉ liveItemIds st ∧ i ≠ 0) ∧ ItemInv st' := by
  rw [createItems_eq st sess sub n hw] at h
  -- only the last branch answers `.itemIds`
  split at h
  · cases h
  next o _ =>
    split at h
    · cases h
    split at h
    · cases h
    cases h
    have hfresh : ∀ i ∈ List.range' (st.itemCtr + 1) n, i ∉ liveItemIds st ∧ i ≠ 0 := by
      intro i hi
      rw [List.mem_range'_1] at hi
      refine ⟨fun hlive => ?_, Nat.ne_zero_of_lt hi.1⟩
      obtain ⟨it, hit, rfl⟩ := List.mem_map.1 hlive
      exact Nat.not_succ_le_self _ (Nat.le_trans hi.1 (hinv.1 it hit).2)
    refine ⟨List.nodup_range', hfresh, ?_, ?_⟩
    · intro it hit
      rcases List.mem_append.1 hit with hit | hit
      · have := hinv.1 it hit
        exact ⟨this.1, Nat.le_add_right_of_le this.2⟩
      · obtain ⟨i, hi, rfl⟩ := List.mem_map.1 hit
        rw [List.mem_range'_1] at hi
        show 1 ≤ i ∧ i ≤ st.itemCtr + n
        omega
    · show ((st.items ++ _).map (·.id)).Nodup
      rw [List.map_append, List.map_map, show ((·.id) ∘ fun i => (⟨i, o, 0⟩ : Item)) = id from rfl, List.map_id]
      exact List.nodup_append.2 ⟨hinv.2, List.nodup_range', fun a ha b hb hab => (hfresh b hb).1 (hab ▸ ha)⟩

/-- subscription ids (full strength since the repair): below the wrap of the
    counter the id handed out is non-zero, not in use, and not named by any
    pending background deletion; the invariant is kept -/
theorem C32_sub_id_fresh (st : St) (sess : Nat) (hinv : SubInv st) (hw : st.subCtr + 1 < 4294967296) :
    (createSub st sess).1 = .subId (st.subCtr + 1) ∧
    st.subCtr + 1 ∉ liveSubIds st ∧ st.subCtr + 1 ∉ st.pending ∧ SubInv (createSub st sess).2 := by
  obtain ⟨hfresh, hpend⟩ := hinv.next_fresh
  rw [createSub_eq st sess hinv hw]
  refine ⟨rfl, hfresh, hpend, fun id h => ?_, fun id h => ?_⟩
  · rw [liveSubIds, List.map_append, List.mem_append, List.map_singleton, List.mem_singleton] at h
    rcases h with h | rfl
    · exact ⟨(hinv.1 id h).1, Nat.le_succ_of_le (hinv.1 id h).2⟩
    · exact ⟨Nat.succ_pos _, Nat.le_refl _⟩
  · exact ⟨(hinv.2 id h).1, Nat.le_succ_of_le (hinv.2 id h).2⟩

/-- a background DeleteSubscription(id) call removes only what is registered
    under that id: other table entries and the items of other subscription ids stay -/
theorem C32_apply_frame (st : St) (k : Nat) :
    (∀ e ∈ st.subs, (∀ id, st.pending[k]? = some id → e.1 ≠ id) → e ∈ (applyDelete st k).2.subs) ∧
    (∀ it ∈ st.items, (∀ id, st.pending[k]? = some id → it.sub.id ≠ id) → it ∈ (applyDelete st k).2.items) := by
  cases hp : st.pending[k]? with
  | none => rw [applyDelete_none st k hp]; simp
  | some id =>
    simp only [Option.some.injEq, forall_eq']
    cases hl : lookupSub st.subs id with
    | none =>
      rw [applyDelete_miss st k id hp hl]
      exact ⟨fun e he _ => he, fun it hit hne => by simp [hit, hne]⟩
    | some o =>
      rw [applyDelete_hit st k id o hp hl]
      exact ⟨fun e he hne => by simp [eraseSub, he, hne], fun it hit hne => by simp [hit, hne]⟩

/-- every request and every background step keeps the invariant (CreateSubscription below the wrap) -/
theorem C32_subinv_step (st : St) (op : Op) (hinv : SubInv st)
    (hw : ∀ s, op = .createSub s → st.subCtr + 1 < 4294967296) : SubInv (step st op).2 := by
  unfold step
  by_cases h0 : op.session = some 0
  · simpa [h0] using hinv
  rw [if_neg h0]
  cases op with
  | createSub s => exact (C32_sub_id_fresh st s hinv (hw s rfl)).2.2.2
  | deleteSubs s ids =>
    refine ⟨hinv.1, ?_⟩
    intro id h
    simp only [deleteSubs, List.mem_append] at h
    rcases h with h | h
    · exact hinv.2 id h
    · obtain ⟨o, ho, _⟩ := deleteSubsLoop_spawned st.subs s ids id h
      exact hinv.1 id (List.mem_map.2 ⟨(id, o), lookupSub_mem ho, rfl⟩)
  | apply k =>
    show SubInv (applyDelete st k).2
    cases hp : st.pending[k]? with
    | none => rw [applyDelete_none st k hp]; exact hinv
    | some id =>
      cases hl : lookupSub st.subs id with
      | none =>
        rw [applyDelete_miss st k id hp hl]
        exact ⟨hinv.1, fun x hx => hinv.2 x (List.mem_of_mem_eraseIdx hx)⟩
      | some o =>
        rw [applyDelete_hit st k id o hp hl]
        refine ⟨fun x hx => hinv.1 x (liveSubIds_erase st.subs id x hx), ?_⟩
        intro x hx
        rcases List.mem_append.1 hx with hx | hx
        · exact hinv.2 x (List.mem_of_mem_eraseIdx hx)
        · exact hinv.2 x (List.mem_singleton.1 hx ▸ List.mem_of_getElem? hp)
  | createItems s sub n =>
    obtain ⟨h1, h2, h3⟩ := createItems_frame st s sub n
    simp only [SubInv, liveSubIds, h1, h2, h3]
    exact hinv
  | setMode s m ids => exact hinv
  | deleteItems s ids => exact hinv

/-- consequence: a background `DeleteSubscription(id)` that is pending when a
    subscription is created can never remove it, however late it runs (the former
    finding C32.stale-delete-kills-foreign-subscription) -/
theorem C32_pending_cannot_hit_new (st : St) (sess k : Nat) (hinv : SubInv st)
    (hw : st.subCtr + 1 < 4294967296) :
    ∃ o, o.owner = sess ∧ o.id = st.subCtr + 1 ∧
      (st.subCtr + 1, o) ∈ (applyDelete (createSub st sess).2 k).2.subs := by
  rw [createSub_eq st sess hinv hw]
  refine ⟨⟨st.nextUid, st.subCtr + 1, sess⟩, rfl, rfl, (C32_apply_frame _ k).1 _ (by simp) ?_⟩
  rintro id hp rfl
  exact hinv.next_fresh.2 (List.mem_of_getElem? hp)

/-! ### the wrap of the two 32-bit counters -/

/-- both counters use the same scheme: the successor never is 0 and stays a 32-bit number; it is
    c+1 below the wrap, and after 2^32-1 comes 1 (0 is skipped) -/
theorem C32_nextID_wrap :
    (∀ c, nextID c ≠ 0 ∧ nextID c < 4294967296) ∧
    (∀ c, c + 1 < 4294967296 → nextID c = c + 1) ∧
    nextID 4294967295 = 1 ∧ nextID 4294967294 = 4294967295 := by
  refine ⟨fun c => ?_, fun _ => nextID_small, by decide, by decide⟩
  simp only [nextID]
  split
  · decide
  · rename_i h
    exact ⟨h, Nat.mod_lt _ (by decide)⟩

/-- the hypothesis "below the wrap" of the two freshness theorems is needed: once a counter has
    gone round, the id it hands out can be one that is still in use (server alive for more than
    2^32 subscriptions / monitored items — recorded as an assumption, not repaired) -/
theorem C32_wrap_can_reuse_live_id :
    -- subscriptions: counter at 2^32-1, subscription 1 still alive
    (let st : St := { St.init 0 4294967295 with subs := [(1, ⟨1, 1, 1⟩)] }
     SubInv st ∧ (createSub st 2).1 = .subId 1 ∧ 1 ∈ liveSubIds st) ∧
    -- monitored items: counter at 2^32-1, item 1 still alive
    (let st : St := { St.init 4294967295 5 with subs := [(5, ⟨1, 5, 1⟩)], items := [⟨1, ⟨1, 5, 1⟩, 0⟩] }
     ItemInv st ∧ (createItems st 1 5 1).1 = .itemIds [1] ∧ 1 ∈ liveItemIds st) := by
  unfold SubInv ItemInv
  decide +kernel

/-! ### session scope -/

/-- DeleteSubscriptions: the table and the items are not touched by the request
    itself, and every background deletion it spawns names a subscription that
    belongs to the requesting session at that moment -/
theorem C32_deleteSubs_scoped (st : St) (sess : Nat) (ids : List Nat) :
    (deleteSubs st sess ids).2.subs = st.subs ∧ (deleteSubs st sess ids).2.items = st.items ∧
    ∃ sp, (deleteSubs st sess ids).2.pending = st.pending ++ sp ∧
      ∀ id ∈ sp, ∃ o, lookupSub st.subs id = some o ∧ o.owner = sess ∧ sess ≠ 0 := by
  exact ⟨rfl, rfl, (deleteSubsLoop st.subs sess ids).2.1, rfl, deleteSubsLoop_spawned st.subs sess ids⟩

/-- … and a request that names only unknown or foreign subscriptions is refused
    entry by entry (BadSubscriptionIdInvalid / BadSessionIdInvalid) and has no
    effect at all -/
theorem C32_deleteSubs_refused (st : St) (sess : Nat) (ids : List Nat) (hs : sess ≠ 0)
    (hall : ∀ id ∈ ids, lookupSub st.subs id = none ∨
      ∃ o, lookupSub st.subs id = some o ∧ o.owner ≠ sess ∧ o.owner ≠ 0) :
    (deleteSubs st sess ids).2 = st ∧
    ∃ ss, (deleteSubs st sess ids).1 = .statuses ss ∧ ss.length = ids.length ∧
      ∀ s ∈ ss, s = .badSubscriptionIdInvalid ∨ s = .badSessionIdInvalid := by
  simp only [deleteSubs, deleteSubsLoop_refused st.subs sess hs ids hall, List.append_nil]
  refine ⟨trivial, _, rfl, List.length_map .., fun s h => ?_⟩
  obtain ⟨id, _, rfl⟩ := List.mem_map.1 h
  split <;> simp

/-- CreateMonitoredItems on a subscription of another session is refused and
    changes nothing -/
theorem C32_createItems_scoped (st : St) (sess sub n : Nat) (o : SubObj)
    (hl : lookupSub st.subs sub = some o) (hs : sess ≠ 0) (ho : o.owner ≠ 0) (hne : o.owner ≠ sess) :
    createItems st sess sub n = (.errNotYours, st) := by
  simp [createItems, hl, hs, ho, hne]

/-- SetMonitoringMode by a session changes no monitored item of any other session —
    whatever ids it names — and never touches the subscription table (full strength
    since the repair; was false: C32.setmonitoringmode-foreign-item) -/
theorem C32_setMode_scoped (st : St) (sess mode : Nat) (ids : List Nat) (it : Item)
    (h : it ∈ st.items) (hf : it.sub.owner ≠ sess) :
    it ∈ (setMode st sess mode ids).2.items ∧ (setMode st sess mode ids).2.subs = st.subs :=
  ⟨setModeLoop_scoped sess mode ids st.items it h hf, rfl⟩

/-- DeleteMonitoredItems by a session deletes no monitored item of any other session —
    whatever ids it names (full strength since the repair; was false:
    C32.deletemonitoreditems-foreign-item) -/
theorem C32_deleteItems_scoped (st : St) (sess : Nat) (ids : List Nat) (hinv : ItemInv st) (it : Item)
    (h : it ∈ st.items) (hf : it.sub.owner ≠ sess) :
    it ∈ (deleteItems st sess ids).2.items ∧ (deleteItems st sess ids).2.subs = st.subs := by
  refine ⟨?_, rfl⟩
  simp only [deleteItems, List.mem_filter, h, true_and, Bool.not_eq_true', List.contains_eq_mem,
    decide_eq_false_iff_not]
  intro hc
  obtain ⟨x, hx, hown⟩ := deleteItemsLoop_spawned st.items sess ids it.id hc
  rw [lookupItem_self st.items hinv.2 it h] at hx
  cases hx
  exact hf hown

/-- a request of the two item services that names only unknown ids or items of other
    sessions is refused entry by entry (BadMonitoredItemIdInvalid / BadSessionIdInvalid)
    and has no effect at all (an unknown id was a nil dereference before the repair) -/
theorem C32_items_refused (st : St) (sess mode : Nat) (ids : List Nat) (hs : sess ≠ 0)
    (hall : ∀ id ∈ ids, lookupItem st.items id = none ∨
      ∃ x, lookupItem st.items id = some x ∧ x.sub.owner ≠ sess ∧ x.sub.owner ≠ 0) :
    ((setMode st sess mode ids).2 = st ∧
      ∃ ss, (setMode st sess mode ids).1 = .statuses ss ∧ ss.length = ids.length ∧
        ∀ s ∈ ss, s = .badMonitoredItemIdInvalid ∨ s = .badSessionIdInvalid) ∧
    ((deleteItems st sess ids).2 = st ∧
      ∃ ss, (deleteItems st sess ids).1 = .statuses ss ∧ ss.length = ids.length ∧
        ∀ s ∈ ss, s = .badMonitoredItemIdInvalid ∨ s = .badSessionIdInvalid) := by
  have hst : ∀ s ∈ ids.map fun id => if (lookupItem st.items id).isSome then Status.badSessionIdInvalid
      else .badMonitoredItemIdInvalid, s = .badMonitoredItemIdInvalid ∨ s = .badSessionIdInvalid := fun s h => by
    obtain ⟨id, _, rfl⟩ := List.mem_map.1 h
    split <;> simp
  have hnone : st.items.filter (fun it => !([] : List Nat).contains it.id) = st.items :=
    List.filter_eq_self.2 fun _ _ => rfl
  simp only [setMode, deleteItems, setModeLoop_refused st.items sess mode hs ids hall,
    deleteItemsLoop_refused st.items sess hs ids hall, hnone]
  exact ⟨⟨trivial, _, rfl, List.length_map .., hst⟩, trivial, _, rfl, List.length_map .., hst⟩

/-! ### the former counterexamples, on the repaired code -/

/-- REPAIRED (was C32.subscription-id-reused-while-live): create, create, delete #1
    (the background call runs), create → the new subscription gets id 3; subscription 2
    of session 1 is untouched -/
theorem C32_repaired_subscription_id :
    let r := run (St.init 0) [.createSub 1, .createSub 1, .deleteSubs 1 [1], .apply 0, .createSub 2]
    r.1 = [.subId 1, .subId 2, .statuses [.ok], .applied true, .subId 3] ∧
    lookupSub r.2.subs 2 = some ⟨2, 2, 1⟩ ∧ lookupSub r.2.subs 3 = some ⟨3, 3, 2⟩ := by
  decide +kernel

/-- REPAIRED (was C32.setmonitoringmode-foreign-item / C32.deletemonitoreditems-foreign-item):
    session 2 naming an item of session 1 gets BadSessionIdInvalid and nothing changes;
    an unknown id gets BadMonitoredItemIdInvalid instead of a nil dereference -/
theorem C32_repaired_foreign_item :
    let r := run (St.init 0) [.createSub 1, .createItems 1 1 2, .setMode 2 7 [1, 9], .deleteItems 2 [2, 9],
                              .setMode 1 5 [9, 1]]
    r.1 = [.subId 1, .itemIds [1, 2], .statuses [.badSessionIdInvalid, .badMonitoredItemIdInvalid],
           .statuses [.badSessionIdInvalid, .badMonitoredItemIdInvalid],
           .statuses [.badMonitoredItemIdInvalid, .ok]] ∧
    r.2.items = [⟨1, ⟨1, 1, 1⟩, 5⟩, ⟨2, ⟨1, 1, 1⟩, 0⟩] := by
  decide +kernel

/-- REPAIRED (was C32.stale-delete-kills-foreign-subscription): the deferred second
    DeleteSubscription(1) of the old goroutine finds nothing, because session 2's new
    subscription has id 2 -/
theorem C32_repaired_stale_delete :
    let r := run (St.init 0) [.createSub 1, .deleteSubs 1 [1], .apply 0, .createSub 2,
                              .createItems 2 2 1, .apply 0]
    r.1 = [.subId 1, .statuses [.ok], .applied true, .subId 2, .itemIds [1], .applied false] ∧
    r.2.subs = [(2, ⟨2, 2, 2⟩)] ∧ r.2.items = [⟨1, ⟨2, 2, 2⟩, 0⟩] := by
  decide +kernel

/-- non-vacuity: a well-behaved history -/
example : (run (St.init 10) [.createSub 1, .createSub 2, .createItems 1 1 2, .createItems 2 1 1,
      .deleteSubs 2 [1, 9], .setMode 1 3 [11], .deleteItems 1 [12], .deleteSubs 1 [1], .apply 0]).1 =
    [.subId 1, .subId 2, .itemIds [11, 12], .errNotYours, .statuses [.badSessionIdInvalid, .badSubscriptionIdInvalid],
     .statuses [.ok], .statuses [.ok], .statuses [.ok], .applied true] := by decide +kernel

end Opcua.Props.C32
