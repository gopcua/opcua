import OpcuaModel.Model.Uacp
import OpcuaModel.Model.UacpMsg
/-
  C05 — UACP framing delivers exactly the frames sent under any segmentation.

  `Uacp.receive` is the model of `(*uacp.Conn).Receive`, `Uacp.receiveAll` the
  caller's loop (delivered frames, reason for stopping); a `Stream` is the list
  of TCP segments in the order they arrive.  Everything below is for EVERY
  segmentation `segs` of the byte stream, every receive buffer size
  `8 ≤ rcvBuf` (no upper bound) and frames of every length.

  The hypothesis `8 ≤ rcvBuf` is necessary: `Receive` slices `b[:8]` of a
  buffer of `ReceiveBufSize` bytes, `C05_small_buffer` shows the panic below 8.
  (A Conn has such a value only by its own configuration, `Dialer.ClientACK` or the `ack` of
  `uacp.Listen`: since C13's repair the client refuses an Acknowledge with a buffer below 8192.)
-/
namespace Opcua.Props.C05
open Opcua Opcua.Uacp

/-- `io.ReadFull` over segments returns the first `n` bytes of the concatenation,
    and what is left concatenates to the remainder — for every segmentation -/
theorem C05_readFull_segmentation (n : Nat) (segs : Stream) (h : n ≤ segs.flatten.length) :
    ∃ rest, readFull n segs = .ok (segs.flatten.take n) rest ∧ rest.flatten = segs.flatten.drop n :=
  readFull_ok h

/-- … and fails (EOF before the first byte, UnexpectedEOF later) exactly when the
    stream is shorter, again independent of the segmentation -/
theorem C05_readFull_short (n : Nat) (segs : Stream) (h : segs.flatten.length < n) :
    readFull n segs = .err (if segs.flatten = [] then .eof else .unexpectedEOF) :=
  readFull_short h

/-- segmentation independence: two segmentations of the same byte stream give
    the same delivered frames and the same final outcome (no hypothesis at all) -/
theorem C05_segmentation (rcvBuf : Nat) (s₁ s₂ : Stream) (h : s₁.flatten = s₂.flatten) :
    receiveAll rcvBuf s₁ = receiveAll rcvBuf s₂ := by
  rw [receiveAll_flat, receiveAll_flat, h]

/-- the property: the peer sends well-formed frames `fs` (8 ≤ size ≤ rcvBuf, size
    field = length, type ≠ ERR) and closes; under EVERY segmentation the receiver
    delivers exactly `fs`, in order, byte for byte, and then sees a clean EOF -/
theorem C05_frames (rcvBuf : Nat) (h8 : 8 ≤ rcvBuf) (fs : List Bytes) (segs : Stream)
    (hfs : ∀ f ∈ fs, wellFormed rcvBuf f) (hseg : segs.flatten = fs.flatten) :
    receiveAll rcvBuf segs = (fs, .eof) :=
  receiveAll_frames_stop (tail := []) hfs (receiveFlat_short h8 (Nat.zero_lt_succ 7))
    (by rw [hseg, List.append_nil])

/-- malformed header: after the good frames `fs` a header announces a size below 8
    or above the receive buffer (followed by anything).  Every segmentation gives:
    exactly `fs` delivered, then the matching error — no panic, nothing more delivered -/
theorem C05_malformed (rcvBuf : Nat) (h8 : 8 ≤ rcvBuf) (fs : List Bytes) (hdr tail : Bytes) (segs : Stream)
    (hfs : ∀ f ∈ fs, wellFormed rcvBuf f) (hlen : hdr.length = 8)
    (hbad : sizeOfHeader hdr < 8 ∨ rcvBuf < sizeOfHeader hdr)
    (hseg : segs.flatten = fs.flatten ++ (hdr ++ tail)) :
    receiveAll rcvBuf segs = (fs, if rcvBuf < sizeOfHeader hdr then .tooLarge else .tooSmall) := by
  refine receiveAll_frames_stop hfs ?_ hseg
  rw [← sizeOfHeader_append (rest := tail) (Nat.le_of_eq hlen.symm)] at hbad ⊢
  exact receiveFlat_badSize h8 (by rw [List.length_append, hlen]; exact Nat.le_add_right 8 _) hbad

/-- an `ERR` frame (complete, size ≤ rcvBuf) is never delivered as a frame: it ends
    the stream with the decoded error, or with a decode error for a garbage body -/
theorem C05_errframe (rcvBuf : Nat) (fs : List Bytes) (e tail : Bytes) (segs : Stream)
    (hfs : ∀ f ∈ fs, wellFormed rcvBuf f) (he : completeFrame rcvBuf e) (hty : isErrType e = true)
    (hseg : segs.flatten = fs.flatten ++ (e ++ tail)) :
    receiveAll rcvBuf segs =
      (fs, match decodeErr (e.drop 8) with
           | none => .errDecode
           | some (c, r) => .errf c r) := by
  refine receiveAll_frames_stop hfs ?_ hseg
  rw [receiveFlat_complete he, if_pos hty]
  simp only [hdrlen]
  rcases decodeErr (e.drop 8) with _ | ⟨c, r⟩ <;> rfl

/-- truncation: the peer closes inside a frame (`part` is a proper prefix of a
    complete frame `f`).  Exactly the earlier frames are delivered, never the partial one;
    the outcome is EOF (cut on a frame boundary or right after a header) or UnexpectedEOF -/
theorem C05_truncated (rcvBuf : Nat) (h8 : 8 ≤ rcvBuf) (fs : List Bytes) (f : Bytes) (k : Nat) (segs : Stream)
    (hfs : ∀ g ∈ fs, wellFormed rcvBuf g) (hf : completeFrame rcvBuf f) (hk : k < f.length)
    (hseg : segs.flatten = fs.flatten ++ f.take k) :
    receiveAll rcvBuf segs = (fs, if k = 0 ∨ k = 8 then .eof else .unexpectedEOF) := by
  obtain ⟨hf8, hfle, hfsz⟩ := hf
  have hlk : (f.take k).length = k := by rw [List.length_take]; omega
  refine receiveAll_frames_stop hfs ?_ hseg
  by_cases hk8 : k < hdrlen
  · -- the stream ends inside the header
    rw [receiveFlat_short h8 (by rw [hlk]; exact hk8), shortErr_eq, hlk]
    grind [hdrlen]
  · -- the header is there and is that of `f`; the stream ends inside the body
    have hk8 : hdrlen ≤ k := Nat.le_of_not_lt hk8
    have hsz : sizeOfHeader (f.take k) = f.length := by rw [sizeOfHeader_take_le hk8, hfsz]
    rw [receiveFlat_short_body (by rw [hlk]; exact hk8) (hsz ▸ hf8) (hsz ▸ hfle) (by rw [hsz, hlk]; exact hk),
      shortErr_eq, List.length_drop, hlk]
    grind [hdrlen]

/-- for ANY byte stream at all (hostile peer), under every segmentation: the loop
    never panics when the buffer holds a header … -/
theorem C05_no_panic (rcvBuf : Nat) (h8 : 8 ≤ rcvBuf) (segs : Stream) :
    (receiveAll rcvBuf segs).2 ≠ .panic := by
  obtain ⟨tail, -, -, h⟩ := receiveAllFlat_spec rcvBuf segs.flatten
  rw [receiveAll_flat]
  intro hp
  exact receiveFlat_ne_panic h8 tail (hp ▸ h)

/-- … and whatever it delivers are complete frames of the stream, in order, with
    nothing skipped: delivered frames concatenate to a prefix of the byte stream and
    each has 8 ≤ size ≤ rcvBuf, size field = length, type ≠ ERR (no partial frame ever) -/
theorem C05_delivered_sound (rcvBuf : Nat) (segs : Stream) :
    (∃ rest, segs.flatten = (receiveAll rcvBuf segs).1.flatten ++ rest) ∧
    ∀ f ∈ (receiveAll rcvBuf segs).1, wellFormed rcvBuf f := by
  obtain ⟨tail, h1, h2, -⟩ := receiveAllFlat_spec rcvBuf segs.flatten
  rw [receiveAll_flat]
  exact ⟨⟨tail, h1⟩, h2⟩

/-- delivery is monotone in the stream: frames delivered from a byte stream are
    never revoked, reordered or changed by bytes that arrive later — for every
    stream, every continuation and every segmentation of both -/
theorem C05_delivery_monotone (rcvBuf : Nat) (s t : Stream) :
    (receiveAll rcvBuf s).1 <+: (receiveAll rcvBuf (s ++ t)).1 := by
  rw [receiveAll_flat, receiveAll_flat, List.flatten_append]
  -- the frames delivered from `s` are well-formed and lead `s`, so they come first whatever follows
  obtain ⟨tail, h1, h2, -⟩ := receiveAllFlat_spec rcvBuf s.flatten
  generalize (receiveAllFlat rcvBuf s.flatten).1 = fs at h1 h2 ⊢
  rw [h1, List.append_assoc, receiveAllFlat_frames fs _ h2]
  exact List.prefix_append _ _

/-- below 8 the code panics on the slice expression `b[:hdrlen]`, before reading anything -/
theorem C05_small_buffer (rcvBuf : Nat) (h : rcvBuf < 8) (segs : Stream) :
    receiveAll rcvBuf segs = ([], .panic) :=
  receiveAll_frames_stop (fs := []) (by simp) (receiveFlat_panic h) rfl

/-! ### writer side: `Conn.Send` and the message codec (Model/UacpMsg.lean) -/

/-- round trip `Receive (Send m) = m`, for each of the four message kinds, every field value a
    Go caller can set, every chunk-type byte, every pair of buffers and every segmentation of the
    stream (the frame may be followed by anything): if `Send` writes (it refuses frames above its
    send buffer) and the frame fits the receiver's buffer, `Receive` delivers exactly the bytes
    written, leaves exactly what follows, and the handshake code's `Decode` returns the message;
    an `ERR` message comes back as the error value with the same code and reason. -/
theorem C05_send_receive (sndBuf rcvBuf : Nat) (hr2 : rcvBuf < 4294967296)
    (m : Msg) (hm : m.wf) (chunk : UInt8) (f more : Bytes) (segs : Stream)
    (hsend : send sndBuf (m.typ ++ [chunk]) m.body = some f) (hfit : f.length ≤ rcvBuf)
    (hseg : segs.flatten = f ++ more) :
    (match m with
     | .err c reason => receive rcvBuf segs = .stop (.errf c reason)
     | _ => ∃ rest, receive rcvBuf segs = .frame f rest ∧ rest.flatten = more ∧
              (chunk = 0x46 → decodeFrame f = some m)) := by
  obtain ⟨hc, -, -, -, hdr⟩ := send_complete hsend hfit hr2
  have hflat := receiveFlat_complete (rest := more) hc
  rw [← hseg, isErrType, take3_of_send hsend] at hflat
  cases m with
  | err c reason =>
    have hdec := decodeErr_enc c reason hm.1 hm.2 []
    rw [List.append_nil] at hdec
    rw [hdr, Msg.body, hdec] at hflat
    exact receive_eq_stop.mpr hflat
  | _ =>
    obtain ⟨rest, h1, h2⟩ := receive_eq_frame.mpr hflat
    exact ⟨rest, h1, h2, fun hch => decodeFrame_of_send hm (hch ▸ hsend) (by simp [Msg.typ])⟩

/-- `Send` never writes a frame above its send buffer, and what it writes is header + body with
    the size field equal to the frame length (bodies below 4 GiB: `MessageSize` is
    `uint32(len(body)+8)`, a larger body would wrap the field) -/
theorem C05_send_bounded (sndBuf : Nat) (typ body f : Bytes) (hb : body.length + 8 < 4294967296)
    (h : send sndBuf typ body = some f) :
    f.length ≤ sndBuf ∧ f.length = body.length + 8 ∧ sizeOfHeader f = f.length ∧ f.take 4 = typ ∧ f.drop 8 = body := by
  obtain ⟨hlen, htk, hdr, hsz, hle⟩ := send_inv h
  rw [Nat.mod_eq_of_lt (show body.length + hdrlen < 4294967296 from hb), ← hlen] at hsz hle
  exact ⟨hle, hlen, hsz, htk, hdr⟩

/-- … and refuses (error, nothing written) a message that does not fit, or a type that is not 4 bytes -/
theorem C05_send_refuses (sndBuf : Nat) (typ body : Bytes)
    (h : typ.length ≠ 4 ∨ (sndBuf < body.length + 8 ∧ body.length + 8 < 4294967296)) :
    send sndBuf typ body = none := by
  rw [send_eq, if_neg]
  rintro ⟨ht, hs⟩
  rcases h with h | ⟨h1, h2⟩
  · exact h ht
  · rw [hdrlen, Nat.mod_eq_of_lt h2] at hs
    omega

/-! non-vacuity: two frames ("MSGF" 9 bytes, "HELF" 8 bytes), rcvBuf 9, three segmentations -/
private def fA : Bytes := [0x4d, 0x53, 0x47, 0x46, 9, 0, 0, 0, 0xaa]
private def fB : Bytes := [0x48, 0x45, 0x4c, 0x46, 8, 0, 0, 0]

example : wellFormed 9 fA ∧ wellFormed 9 fB := by decide
-- one `Receive` on three segmentations of fA ++ fB: whole, byte by byte, odd cuts with an empty read
example : receive 9 [fA ++ fB] = .frame fA [fB] := by decide
example : receive 9 ((fA ++ fB).map fun b => [b]) = .frame fA (fB.map fun b => [b]) := by decide
example : receive 9 [fA.take 3, [], fA.drop 3 ++ fB.take 5, fB.drop 5] = .frame fA [fB.take 5, fB.drop 5] := by decide
-- the hypotheses of the theorems are satisfiable
example : receiveAll 9 [fA.take 3, [], fA.drop 3 ++ fB.take 5, fB.drop 5] = ([fA, fB], .eof) :=
  C05_frames 9 (by decide) [fA, fB] _ (by decide) (by decide)
-- a frame of 10 bytes does not fit a 9 byte buffer; size 7 is below the header
example : receiveAll 9 [fA, [0x4d, 0x53, 0x47, 0x46, 10, 0, 0, 0, 1, 2]] = ([fA], .tooLarge) :=
  C05_malformed 9 (by decide) [fA] [0x4d, 0x53, 0x47, 0x46, 10, 0, 0, 0] [1, 2] _ (by decide) rfl (by decide) (by decide)
example : receiveAll 9 [fA, [0x4d, 0x53, 0x47, 0x46, 7, 0, 0, 0]] = ([fA], .tooSmall) :=
  C05_malformed 9 (by decide) [fA] [0x4d, 0x53, 0x47, 0x46, 7, 0, 0, 0] [] _ (by decide) rfl (by decide) (by decide)
-- ERRF with code 0x80010000 and reason "x"
example : receiveAll 64 [[0x45, 0x52, 0x52, 0x46, 17, 0, 0, 0, 0, 0, 1, 0x80, 1, 0, 0, 0, 0x78]] =
    ([], .errf 0x80010000 [0x78]) :=
  C05_errframe 64 [] [0x45, 0x52, 0x52, 0x46, 17, 0, 0, 0, 0, 0, 1, 0x80, 1, 0, 0, 0, 0x78] [] _
    (by decide) (by decide) (by decide) (by decide)
-- fA cut after 8 bytes: clean EOF although a body byte is missing; cut after 5: UnexpectedEOF
example : receiveAll 9 [fB, fA.take 8] = ([fB], .eof) :=
  C05_truncated 9 (by decide) [fB] fA 8 _ (by decide) (by decide) (by decide) (by decide)
example : receiveAll 9 [fB, fA.take 5] = ([fB], .unexpectedEOF) :=
  C05_truncated 9 (by decide) [fB] fA 5 _ (by decide) (by decide) (by decide) (by decide)

-- writer side: the Hello of a default client with the one-byte endpoint URL "o" is 33 bytes (8 + 5·4 + 4 + 1); a 32 byte send buffer refuses it
example : (send 65535 ((Msg.hello 0 65535 65535 0 0 [0x6f]).typ ++ [0x46]) (Msg.hello 0 65535 65535 0 0 [0x6f]).body).map List.length = some 33 := by decide
example : send 32 ((Msg.hello 0 65535 65535 0 0 [0x6f]).typ ++ [0x46]) (Msg.hello 0 65535 65535 0 0 [0x6f]).body = none := by decide

end Opcua.Props.C05
