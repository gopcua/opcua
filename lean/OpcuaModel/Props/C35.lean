import OpcuaModel.Model.SrvHandlersLemmas
/-
  C35 — services other than discovery and session set-up require an activated
  session: a non-exempt request whose authentication token does not name a
  created, activated, not closed session is refused with a session error and
  changes nothing.

  `step` (Model/SrvHandlers.lean) is the model of `handleService` and the
  handlers; which handler looks the session up and which one compares it with
  nil is read from the regenerated table `Gen.SrvSession.handlers` (C35_table).

  On the current code the property is FALSE for Read, Write and Browse (no
  session lookup at all), for the 23 stub services (they answer
  BadServiceUnsupported, not a session error) and, for a created but never
  activated session, for every service (there is no activation flag at all:
  C35_activation_is_ghost).  Each family has a machine-checked counterexample
  (C35_finding_*); the property is proved where it holds (C35_partial,
  C35_checked_services) and the exempt services are proved to work without a
  session (C35_exempt_answered).
-/
namespace Opcua.Props.C35
open Opcua Opcua.Srv Opcua.Gen.SrvSession

/-- C35 for one request in one state -/
def Holds (st : St) (t : Tok) (r : Req) : Prop :=
  exempt r = false → validToken st t = false →
    (step st t r).2.isSessionErr = true ∧ (step st t r).1 = st

/-! ### the regenerated handler table -/

/-- The registration table of `initHandlers` with the per-handler facts, and the
    fact that the dispatcher itself never looks at the session.  A newly
    registered service, a stub that starts doing work, or a new session check
    changes the generated file and breaks this theorem. -/
theorem C35_table :
    handlers.map (fun h => (h.request, h.unsupported, h.lookup, h.nilChecked)) =
      [("FindServersRequest", false, "none", false), ("FindServersOnNetworkRequest", true, "none", false),
       ("GetEndpointsRequest", false, "none", false), ("RegisterServerRequest", true, "none", false),
       ("RegisterServer2Request", true, "none", false), ("CreateSessionRequest", false, "none", false),
       ("ActivateSessionRequest", false, "session", true), ("CloseSessionRequest", false, "close", false),
       ("CancelRequest", true, "none", false), ("AddNodesRequest", true, "none", false),
       ("AddReferencesRequest", true, "none", false), ("DeleteNodesRequest", true, "none", false),
       ("DeleteReferencesRequest", true, "none", false), ("BrowseRequest", false, "none", false),
       ("BrowseNextRequest", true, "none", false), ("TranslateBrowsePathsToNodeIDsRequest", true, "none", false),
       ("RegisterNodesRequest", true, "none", false), ("UnregisterNodesRequest", true, "none", false),
       ("QueryFirstRequest", true, "none", false), ("QueryNextRequest", true, "none", false),
       ("ReadRequest", false, "none", false), ("HistoryReadRequest", true, "none", false),
       ("WriteRequest", false, "none", false), ("HistoryUpdateRequest", true, "none", false),
       ("CallRequest", true, "none", false), ("CreateSubscriptionRequest", false, "session", true),
       ("ModifySubscriptionRequest", true, "none", false), ("SetPublishingModeRequest", true, "none", false),
       ("PublishRequest", false, "session", true), ("RepublishRequest", true, "none", false),
       ("TransferSubscriptionsRequest", true, "none", false), ("DeleteSubscriptionsRequest", false, "session", true),
       ("CreateMonitoredItemsRequest", false, "session", true), ("ModifyMonitoredItemsRequest", true, "none", false),
       ("SetMonitoringModeRequest", false, "session", true), ("SetTriggeringRequest", true, "none", false),
       ("DeleteMonitoredItemsRequest", false, "session", true)] ∧
    dispatcherLookup = "none" ∧ dispatcherNilChecked = false ∧ subIdByLen = false := ⟨rfl, rfl, rfl, rfl⟩

/-- the 14 services the server implements; everything else is a stub -/
theorem C35_implemented :
    (handlers.filter (fun h => !h.unsupported)).map (·.request) =
      ["FindServersRequest", "GetEndpointsRequest", "CreateSessionRequest", "ActivateSessionRequest",
       "CloseSessionRequest", "BrowseRequest", "ReadRequest", "WriteRequest", "CreateSubscriptionRequest",
       "PublishRequest", "DeleteSubscriptionsRequest", "CreateMonitoredItemsRequest",
       "SetMonitoringModeRequest", "DeleteMonitoredItemsRequest"] := rfl

/-! ### what holds -/

/-- Discovery and CreateSession are answered whatever the token is (server with endpoints). -/
theorem C35_exempt_answered (st : St) (t : Tok) (k : Tok) (c : CertCls) :
    (st.endpointsEmpty = false → step st t .findServers = (st, .ok "")) ∧
    step st t .getEndpoints = (st, .ok "") ∧
    (step st t (.createSession k false c)).2 = .ok "" := by
  refine ⟨fun h => ?_, ?_, ?_⟩ <;> simp [step_eq, body, *]

/-- The handlers that compare the looked-up session with nil — Publish, ActivateSession and, since the
    nil-session repair, the subscription and monitored-item services — refuse a token that is not in
    the session table with a session error and change nothing. -/
theorem C35_checked_services (st : St) (t : Tok) (h : findSession st t = none) (sec ok : Bool)
    (iv : Interval) (ids : List Nat) (sub n : Nat) :
    step st t .publish = (st, .sessionErr) ∧
    step st t (.activateSession sec ok) = (st, .sessionErr) ∧
    step st t (.createSubscription iv) = (st, .sessionErr) ∧
    step st t (.deleteSubscriptions ids) = (st, .sessionErr) ∧
    step st t (.createMonitoredItems sub n) = (st, .sessionErr) ∧
    step st t (.setMonitoringMode ids) = (st, .sessionErr) ∧
    step st t (.deleteMonitoredItems ids) = (st, .sessionErr) := by
  simp [step_eq, h]

/-- Signed and encrypted channels: ActivateSession checks the client signature — a wrong one is refused
    with BadSecurityChecksFailed and changes nothing, a right one activates.  The refusal has no
    consequence for later requests (`C35_finding_refused_activation_still_served`). -/
theorem C35_activation_signed (st : St) (t : Tok) (x : Session) (h : findSession st t = some x)
    (hr : x.certRsa = true) :
    step st t (.activateSession true false) = (st, .fault "BadSecurityChecksFailed") ∧
    (step st t (.activateSession true true)).2 = .ok "" := by
  constructor <;> simp [step_eq, body, h, hr]

/-- the guard under which C35 holds: the handler looks the session up and nil-checks it
    (per the regenerated table) and the token is not in the session table -/
def guard (st : St) (t : Tok) (r : Req) : Bool :=
  match handlerOf r.name with
  | some h => !h.unsupported && h.lookup == "session" && h.nilChecked && (findSession st t).isNone
  | none => false

/-- `guard` is the dispatcher's own test -/
theorem guard_eq (st : St) (t : Tok) (r : Req) :
    guard st t r = (sessionChecked r && (findSession st t).isNone) := by
  rcases handlerOf_name r with ⟨n, rfl⟩ | ⟨h, hh, hu, hc⟩
  · cases hh : handlerOf n <;> simp [guard, Req.name, hh]
  · simp only [guard, hh, hu, Bool.not_false, Bool.true_and, hc]

/-- C35 on the part of the input space where it holds. -/
theorem C35_partial (st : St) (t : Tok) (r : Req) (g : guard st t r = true) : Holds st t r := by
  intro _ _
  rw [step_eq, ← guard_eq, g]
  exact ⟨rfl, rfl⟩

/-- Publish without a session in the table satisfies the guard: the partial theorem is not vacuous. -/
theorem C35_partial_publish (st : St) (t : Tok) (h : findSession st t = none) : Holds st t .publish :=
  C35_partial st t .publish (by simp [guard_eq, h])

/-! ### what does not hold -/

/-- Read, Write and Browse never look at the token: the answer is the same for every token. -/
theorem C35_token_ignored (st : St) (t t' : Tok) (v : Int) (w : String) (a : AttrV) (c : BrowseCls) (b : Bool) :
    step st t .read = step st t' .read ∧
    step st t (.write v) = step st t' (.write v) ∧
    step st t (.writeAttr w a) = step st t' (.writeAttr w a) ∧
    step st t (.browse c b) = step st t' (.browse c b) := by
  simp [step_eq, body]

/-- Read is answered with the value, Write changes the value, for any token at all
    (node with default access attributes). -/
theorem C35_read_write_unchecked (st : St) (t : Tok) (v : Int) (h : st.accessAttr = .absent) :
    step st t .read = (st, .ok "Good") ∧
    step st t (.write v) = ({ st with value := v }, .ok "Good") := by
  constructor <;> simp [step_eq, body, accessCheck, h]

/-- CreateSubscription for a token in the session table creates a subscription owned by that session
    (whether or not the session was ever activated). -/
theorem C35_createSubscription_owned (st : St) (t : Tok) (x : Session) (h : findSession st t = some x) :
    step st t (.createSubscription .huge) =
      ({ st with subs := putSub st.subs ⟨st.lastSub + 1, some x.token⟩, lastSub := st.lastSub + 1 }, .ok "") := by
  simp [step_eq, body, effectiveInterval, h, C35_table.2.2.2]

/-- A stub service answers BadServiceUnsupported (not a session error) and changes nothing. -/
theorem C35_stub_unsupported (st : St) (t : Tok) (n : String)
    (h : ∀ x, handlerOf n = some x → x.unsupported = true) :
    step st t (.other n) = (st, .fault "BadServiceUnsupported") := by
  unfold step
  simp only [Req.name]
  cases hh : handlerOf n with
  | none => rfl
  | some x => simp [h x hh, unsupportedFault]

/-- The activation flag is ghost state: the answer to any request is the same whether or
    not the sessions in the table were ever activated. -/
theorem C35_activation_is_ghost (st : St) (t : Tok) (r : Req) :
    (step (deactivate st) t r).2 = (step st t r).2 := by
  have hs : (findSession (deactivate st) t).isNone = (findSession st t).isNone := by
    rw [findSession_deactivate]; cases findSession st t <;> rfl
  rw [step_eq, step_eq, hs]
  split
  · rfl
  · exact body_deactivate_out st t r

/-- the state of the recorded counterexamples: session 1 created and activated, session 2
    created only, subscription 1 (with item 1) owned by session 1, test value 5 -/
def st1 : St :=
  { sessions := [⟨1, true, 0, true⟩, ⟨2, false, 0, true⟩], subs := [⟨1, some 1⟩], items := [⟨1, 1⟩], nextItem := 1, lastSub := 1, value := 5 }

/-- finding C35.read-without-session: no token, the value is returned. -/
theorem C35_finding_read :
    exempt .read = false ∧ validToken st1 0 = false ∧ step st1 0 .read = (st1, .ok "Good") ∧
    classify35 st1 0 .read = "C35.read-without-session" := by simp only [step_eq]; decide +kernel

/-- finding C35.write-without-session: an unknown token, the value changes. -/
theorem C35_finding_write :
    validToken st1 77 = false ∧ step st1 77 (.write 9) = ({ st1 with value := 9 }, .ok "Good") ∧
    classify35 st1 77 (.write 9) = "C35.write-without-session" := by simp only [step_eq]; decide +kernel

/-- finding C35.browse-without-session -/
theorem C35_finding_browse :
    step st1 0 (.browse .plain false) = (st1, .ok "Good") ∧
    classify35 st1 0 (.browse .plain false) = "C35.browse-without-session" := by simp only [step_eq]; decide +kernel

/-- repaired (was finding C35.subscription-without-session): CreateSubscription and
    DeleteSubscriptions without a session are refused with a session error and change nothing —
    no subscription with a nil owner can be created any more. -/
theorem C35_repaired_subscription :
    step st1 0 (.createSubscription .huge) = (st1, .sessionErr) ∧
    step st1 0 (.deleteSubscriptions [7]) = (st1, .sessionErr) ∧
    step st1 0 (.deleteSubscriptions [1]) = (st1, .sessionErr) ∧
    step st1 77 (.createSubscription .small) = (st1, .sessionErr) := by simp only [step_eq]; decide +kernel

/-- repaired (was finding C35.monitoreditems-without-session) -/
theorem C35_repaired_monitoreditems :
    step st1 0 (.createMonitoredItems 7 1) = (st1, .sessionErr) ∧
    step st1 0 (.createMonitoredItems 1 1) = (st1, .sessionErr) ∧
    step st1 0 (.setMonitoringMode []) = (st1, .sessionErr) ∧
    step st1 0 (.setMonitoringMode [1]) = (st1, .sessionErr) ∧
    step st1 0 (.deleteMonitoredItems [1]) = (st1, .sessionErr) := by simp only [step_eq]; decide +kernel

/-- finding C35.unsupported-without-session: a stub answers BadServiceUnsupported, not a session error. -/
theorem C35_finding_unsupported :
    exempt (.other "CallRequest") = false ∧
    step st1 0 (.other "CallRequest") = (st1, .fault "BadServiceUnsupported") ∧
    classify35 st1 0 (.other "CallRequest") = "C35.unsupported-without-session" := by decide +kernel

/-- finding C35.not-activated-session-accepted: the token of a session that was created but
    never activated is served like an activated one (Publish is queued, Write writes). -/
theorem C35_finding_not_activated :
    validToken st1 2 = false ∧ notActivated st1 2 = true ∧
    step st1 2 .publish = ({ st1 with sessions := [⟨1, true, 0, true⟩, ⟨2, false, 1, true⟩] }, .noResponse) ∧
    step st1 2 (.write 9) = ({ st1 with value := 9 }, .ok "Good") ∧
    (step st1 2 (.createSubscription .huge)).2 = .ok "" ∧
    classify35 st1 2 .publish = "C35.not-activated-session-accepted" := by simp only [step_eq]; decide +kernel

/-- A session whose activation was REFUSED for a wrong signature is served like an activated one (finding
    C35.not-activated-session-accepted; channel security plays no role in any handler). -/
theorem C35_finding_refused_activation_still_served :
    step st1 2 (.activateSession true false) = (st1, .fault "BadSecurityChecksFailed") ∧
    notActivated st1 2 = true ∧
    step st1 2 .read = (st1, .ok "Good") ∧
    step st1 2 (.write 9) = ({ st1 with value := 9 }, .ok "Good") := by simp only [step_eq]; decide +kernel

/-- the property at full strength does not hold for the code as it is -/
theorem C35_full_false : ¬ ∀ st t r, Holds st t r := by
  intro h
  have := (h st1 0 .read C35_finding_read.1 C35_finding_read.2.1).1
  rw [C35_finding_read.2.2.1] at this
  exact absurd this (by decide)

/-! ### non-vacuity -/

example : step st1 1 .publish = ({ st1 with sessions := [⟨1, true, 1, true⟩, ⟨2, false, 0, true⟩] }, .noResponse) := by simp only [step_eq]; decide +kernel
example : step st1 0 .publish = (st1, .sessionErr) := by simp only [step_eq]; decide +kernel
example : step st1 1 (.deleteSubscriptions [1]) = ({ st1 with subs := [], items := [] }, .ok "Good") := by simp only [step_eq]; decide +kernel
example : guard st1 0 .publish = true ∧ guard st1 0 .read = false := by decide +kernel

end Opcua.Props.C35
