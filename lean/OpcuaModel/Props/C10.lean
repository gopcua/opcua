import OpcuaModel.Model.Recv
import OpcuaModel.Model.RecvSpec
import OpcuaModel.Model.RecvTok
/-
  C10 — a replayed secured chunk is never delivered twice.

  The full-strength statement ("a chunk that is re-sent verbatim, or re-ordered
  to arrive after later chunks, is rejected; accepted sequence numbers strictly
  increase") is FALSE on the unchanged code: `readChunk` decodes the sequence
  header after `verifyAndDecrypt` and never compares it with anything, and
  `SecureChannel` has no field that could remember a received sequence number.
  This file proves the negation on the model (`C10_finding_*`, universally, not
  only for one witness) and the one thing the code does guarantee: the
  duplicate filter of `mergeChunks` drops a chunk that immediately follows a
  chunk with the same number *inside one multi-chunk message*.
-/
namespace Opcua.Props.C10
open Opcua Opcua.Recv Opcua.Recv.Spec

/-- a chunk that `Receive` treats as final -/
def isFinal (c : Chunk) : Prop := c.ct ≠ ctA ∧ c.ct ≠ ctC

theorem step_final_single (cfg : Cfg) (bufs : Bufs) (c : Chunk) (hf : isFinal c)
    (hempty : bufs.get c.req = []) (hfit : exceeds cfg.size0 c.data.length cfg.maxMessageSize = false) :
    (step cfg bufs c).2 = .merged c.req c.data ∧ (step cfg bufs c).1.get c.req = [] := by
  have h1 : step1 cfg (bufs.get c.req) c = ([], .merged c.req c.data) := by
    simp [step1_final cfg _ hf.1 hf.2, hempty, mergeChunks, hfit]
  rw [step_snd, step_get_same, h1]
  exact ⟨rfl, rfl⟩

/-- FINDING C10.replay-delivered-twice, for EVERY single-chunk message: fed
    twice in a row, the copy is delivered a second time, whatever its
    sequence number. -/
theorem C10_finding_replay_single (cfg : Cfg) (bufs : Bufs) (c : Chunk) (hf : isFinal c)
    (hempty : bufs.get c.req = []) (hfit : exceeds cfg.size0 c.data.length cfg.maxMessageSize = false) :
    runOuts cfg bufs [c, c] = [.merged c.req c.data, .merged c.req c.data] := by
  obtain ⟨h1, h2⟩ := step_final_single cfg bufs c hf hempty hfit
  obtain ⟨h3, _⟩ := step_final_single cfg (step cfg bufs c).1 c hf h2 hfit
  simp [runOuts, h1, h3]

/-- the same for secured frames: whatever `verifyAndDecrypt` and the header
    decoding do (`unwrap`), a frame that opens to a single-chunk message is
    delivered again when it is re-sent verbatim. -/
theorem C10_finding_replay_sealed (unwrap : Bytes → Option Chunk) (cfg : Cfg) (bufs : Bufs)
    (frame : Bytes) (c : Chunk) (hu : unwrap frame = some c) (hf : isFinal c)
    (hempty : bufs.get c.req = []) (hfit : exceeds cfg.size0 c.data.length cfg.maxMessageSize = false) :
    deliveredSealed (runSealed unwrap cfg bufs [frame, frame]) = [(c.req, c.data), (c.req, c.data)] := by
  obtain ⟨h1, h2⟩ := step_final_single cfg bufs c hf hempty hfit
  obtain ⟨h3, _⟩ := step_final_single cfg (step cfg bufs c).1 c hf h2 hfit
  simp [runSealed, stepSealed, hu, deliveredSealed, delivered, h1, h3]

/-- … and for EVERY complete message of any number of chunks (within the
    limits, guard of C12): replaying its whole chunk sequence delivers the body
    a second time. -/
theorem C10_finding_replay_message (cfg : Cfg) (m : SMsg) (bufs : Bufs)
    (hfit : m.fits cfg) (hg : m.noDrop) (hna : m.abort = false) (hfresh : bufs.get m.req = []) :
    delivered (runOuts cfg bufs (m.chunks ++ m.chunks)) = [(m.req, m.body), (m.req, m.body)] := by
  have once : ∀ b : Bufs, b.get m.req = [] →
      delivered (runOuts cfg b m.chunks) = [(m.req, m.body)] ∧ (runFinal cfg b m.chunks).get m.req = [] := by
    intro b hb
    have h := run_spec cfg [m] (by simpa using hfit) (by simpa using hg) m.chunks b
      (fun c hc => ⟨m, by simp, (chunks_req m hc).symm⟩)
      (by
        simp only [List.mem_singleton, forall_eq]
        rw [List.filter_eq_self.mpr fun c hc => by simp [chunks_req m hc], hb]
        exact good_start m)
    refine ⟨?_, h.2.1 m (by simp)⟩
    rw [h.1]
    -- the specification: `continue` for the intermediate chunks, the body for the last one
    simp [SMsg.chunks, SMsg.interChunks, specOut, delivered, List.filterMap_map, Function.comp_def, SMsg.lastChunk,
      SMsg.expected, hna, ctF, ctC]
  obtain ⟨d1, f1⟩ := once bufs hfresh
  obtain ⟨d2, _⟩ := once (runFinal cfg bufs m.chunks) f1
  rw [runOuts_append, delivered_append, d1, d2]
  rfl

/-- FINDING C10.no-sequence-check: the result of a final chunk with nothing
    buffered does not depend on its sequence number at all — re-ordered,
    decreasing, repeated numbers are all accepted. -/
theorem C10_finding_seq_ignored (cfg : Cfg) (bufs : Bufs) (c : Chunk) (s : Nat) (hf : isFinal c)
    (hempty : bufs.get c.req = []) :
    (step cfg bufs { c with seq := s }).2 = (step cfg bufs c).2 := by
  -- two final chunks on an empty buffer: `mergeChunks [c] = c.data` does not read `c.seq`
  rw [step_snd, step_snd, step1_final cfg _ hf.1 hf.2, step1_final cfg _ (c := { c with seq := s }) hf.1 hf.2, hempty]
  rfl

/-- counterexample to "accepted sequence numbers strictly increase": numbers
    9, 3, 3 are accepted and all three messages delivered -/
theorem C10_finding_reorder :
    delivered (runOuts { maxChunkCount := 512, maxMessageSize := 2097152 } [] [⟨ctF, 9, 1, [1]⟩, ⟨ctF, 3, 2, [2]⟩, ⟨ctF, 3, 3, [3]⟩]) =
      [(1, [1]), (2, [2]), (3, [3])] := by decide

/-! ### what the code does guarantee -/

/-- a chunk that immediately follows a chunk with the same sequence number is
    skipped by the loop of `mergeChunks` -/
theorem C10_consecutive_duplicate_dropped (prev : Nat) (c d : Chunk) (t : List Chunk) (h : d.seq = c.seq) :
    mergeLoop prev (c :: d :: t) = mergeLoop prev (c :: t) :=
  mergeLoop_skip prev [] c d t h

/-- so inside a multi-chunk message a verbatim copy right after the original
    does not change the merged body (the message must have two or more chunks
    apart from the copy: the single-chunk shortcut bypasses the filter — which
    is harmless there, `[c, c]` merges to `c.data` as well) -/
theorem C10_duplicate_in_message (pre : List Chunk) (c : Chunk) (post : List Chunk) :
    mergeChunks (pre ++ c :: c :: post) = mergeChunks (pre ++ c :: post) :=
  mergeChunks_skip pre c c post rfl

/-- the guarantee is that narrow: a copy that does not follow its original
    immediately is merged a second time, and a copy of a two-chunk message's
    final chunk, arriving after the message, is delivered as a message of its
    own -/
theorem C10_guarantee_is_narrow :
    mergeChunks [⟨ctC, 5, 1, [1]⟩, ⟨ctC, 6, 1, [2]⟩, ⟨ctC, 5, 1, [1]⟩, ⟨ctF, 7, 1, [3]⟩] = [1, 2, 1, 3] ∧
    delivered (runOuts { maxChunkCount := 512, maxMessageSize := 2097152 } [] [⟨ctC, 5, 1, [1]⟩, ⟨ctF, 6, 1, [2]⟩, ⟨ctF, 6, 1, [2]⟩]) =
      [(1, [1, 2]), (1, [2])] := by decide

/-! ### replay across a token renewal (client channel; ties C10 with C17's instance table) -/

open Opcua.Tokens Opcua.RecvTok in
/-- FINDING C10.replay-delivered-twice, across renewals: a frame secured under
    a token of channel `f.chan` and delivered once is delivered AGAIN when it is
    re-sent after ANY sequence of OpenSecureChannel responses (renewals) and
    expiry timers in which no expiring token id equals the channel id — the
    superseded instance is never removed (C17) and no sequence number is
    compared (C10), so the replay window of a captured chunk never closes
    while the connection lives. -/
theorem C10_finding_replay_across_renewal (cfg : Cfg) (st : RecvTok.St) (f : SFrame) (i : Inst) (evs : List Ev)
    (hm : i ∈ st.table.get f.chan) (hk : i.key = f.key) (hno : NoTokEqChan f.chan evs)
    (hf : isFinal f.chunk) (hempty : st.bufs.get f.chunk.req = [])
    (hfit : exceeds cfg.size0 f.chunk.data.length cfg.maxMessageSize = false) :
    deliveredTok (RecvTok.run cfg st (.frame f :: (evs.map In.table ++ [.frame f]))) =
      [(f.chunk.req, f.chunk.data), (f.chunk.req, f.chunk.data)] := by
  obtain ⟨tok1, hv1⟩ := verify_accepts_of_mem hm hk
  obtain ⟨tok2, hv2⟩ := verify_accepts_of_mem (kept_forever hno hm) hk
  obtain ⟨h1, h2⟩ := step_final_single cfg st.bufs f.chunk hf hempty hfit
  obtain ⟨h3, _⟩ := step_final_single cfg (Recv.step cfg st.bufs f.chunk).1 f.chunk hf h2 hfit
  -- both copies are accepted; the table events in between leave the buffers alone and deliver nothing
  rw [RecvTok.run, step_frame_accepted cfg st f hv1, run_append, final_table_events, RecvTok.run,
    step_frame_accepted cfg _ f hv2, h1, h3]
  simp only [deliveredTok, List.filterMap_cons, List.filterMap_append, run_table_events, RecvTok.run, id]
  rfl

open Opcua.Tokens Opcua.RecvTok in
/-- what closes the window: when the token id equals the channel id and its
    expiry has run (keys unique per token), the copy is rejected by `readChunk` -/
theorem C10_old_token_copy_rejected_after_expiry (cfg : Cfg) (st : RecvTok.St) (f : SFrame) (i : Inst)
    (hi : i.chan = f.chan) (hk : i.key = f.key) (htok : i.tok = i.chan)
    (huniq : ∀ o ∈ st.table.get i.chan, o.key = i.key → o.tok = i.tok) :
    (RecvTok.step cfg { st with table := expire st.table i } (.frame f)).2 = none := by
  rw [step_frame_rejected]
  rw [← hi, ← hk]
  rw [← htok] at huniq ⊢
  exact verify_expire_rejects st.table i i.key huniq

/-- the witness: channel 7, token 1 (keys 101) → renewed by token 2 (keys 102)
    → expiry of token 1 fires → the captured frame of token 1 is delivered again -/
theorem C10_finding_replay_across_renewal_witness :
    RecvTok.deliveredTok (RecvTok.run { maxChunkCount := 512, maxMessageSize := 2097152 }
      { table := [(7, [⟨7, 1, 101⟩])], bufs := [] }
      [.frame ⟨7, 101, ⟨ctF, 5, 9, [1, 2]⟩⟩, .table (.opn ⟨7, 2, 102⟩), .table (.expire ⟨7, 1, 101⟩),
       .frame ⟨7, 101, ⟨ctF, 5, 9, [1, 2]⟩⟩]) = [(9, [1, 2]), (9, [1, 2])] := by decide

/-! ### OPN chunks

  An OPN chunk that passed `verifyAndDecrypt` goes through the very same loop
  body (`Recv.step`): chunk-type switch, merge, `ua.DecodeService`; a decoded
  OpenSecureChannelRequest is then handed to `handleOpenSecureChannelRequest`.
  Nothing on this path compares a sequence number either, so the theorems
  above apply verbatim to OPN chunks: a replayed OpenSecureChannel request is
  decoded — and handled — a second time (`C10_finding_replay_single` with the
  OPN chunk as `c`; confirmed on the real code by the runner, case `opn-replay`). -/

end Opcua.Props.C10
