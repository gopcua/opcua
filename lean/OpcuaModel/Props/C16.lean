import OpcuaModel.Model.SendRenew
import OpcuaModel.Model.SendFloat
import OpcuaModel.Model.SendSeqInv
import OpcuaModel.Model.SendSeqLive
import OpcuaModel.Gen.RenewExpr
import OpcuaModel.Gen.SendFacts
/-
  C16 — security token renewal keeps the channel usable.

  (a) when: the delay of `scheduleRenewal` (expression matched in the source by
      the `renewexpr` generator topic) against "no earlier than half of the
      lifetime, and before it ends" — holds for every lifetime ≥ 1 ms since the
      whole-second truncation was repaired;
  (b) how: the renewal in the sender / renewal LTS `SendSeq` (shared with C11):
      one renewal per token, no deadlock in any interleaving, correct numbering
      of everything sent around a renewal inside the C11 guard;
  (c) server side: re-keying of the one instance object while others send.
-/
namespace Opcua.Props.C16
open Opcua Opcua.SendRenew Opcua.SendSeq Opcua.SendFloat

/-- what the generator matched in `scheduleRenewal`:
    `time.Duration(float64(lifetime) * 0.75)` — no truncation beyond the nanosecond -/
theorem C16_renew_expr_facts :
    Gen.RenewExpr.fracNum = 3 ∧ Gen.RenewExpr.fracDen = 4 ∧ Gen.RenewExpr.truncUnitNs = 1 := by decide

/-- the delay is exactly three quarters of the lifetime (L ms = L·10^6 ns) -/
theorem C16_delay_formula (L : Nat) : renewDelayNs L = 750000 * L := renewDelayNs_eq L

/-- EXACT characterisation: the renewal falls into [L/2, L) for every lifetime
    of at least one millisecond (the wire carries whole milliseconds), and only then -/
theorem C16_window_iff (L : Nat) : InWindow L ↔ 1 ≤ L := by
  simp only [InWindow, C16_delay_formula]
  omega

/-- FULL STRENGTH -/
theorem C16_window (L : Nat) (h : 1 ≤ L) : InWindow L := (C16_window_iff L).2 h

theorem C16_immediate_iff (L : Nat) : renewDelayNs L = 0 ↔ L = 0 := by
  rw [C16_delay_formula]; omega

/-- THE FLOAT64 STEP IS EXACT: for every lifetime the protocol can carry (uint32
    milliseconds, held as int64 nanoseconds) `int64(float64(lifetime) * 0.75)` —
    exact conversion, IEEE-754 product rounded to nearest-even on 53 bits,
    truncation — is exactly three quarters of the lifetime, i.e. the rational
    model `renewDelayNs` used above is what the machine computes -/
theorem C16_float_exact (L : Nat) (h : L < 4294967296) : f64mul075 (1000000 * L) = renewDelayNs L := by
  rw [C16_delay_formula, f64_exact_div4 (1000000 * L) (by omega) (by omega)]
  omega

/-- for an arbitrary nanosecond lifetime below 2^54/3 ns (≈ 69 days) the float64
    result is ⌊0.75·x⌋ or one more, and exactly ⌊0.75·x⌋ below 2^53/3 ns (≈ 34.7 days) -/
theorem C16_float_bound (x : Nat) (h : 3 * x < 2 ^ 54) :
    3 * x / 4 ≤ f64mul075 x ∧ f64mul075 x ≤ 3 * x / 4 + 1 ∧ (3 * x < 2 ^ 53 → f64mul075 x = 3 * x / 4) :=
  ⟨(f64_bound x h).1, (f64_bound x h).2, f64_exact_small x⟩

/-- the lifetimes that used to fail (whole-second truncation, repaired) -/
theorem C16_former_witnesses :
    renewDelayNs 1000 = 750000000 ∧ InWindow 1000 ∧ renewDelayNs 2500 = 1875000000 ∧ InWindow 2500 ∧ InWindow 1 ∧ ¬ InWindow 0 := by
  decide

/-- (b) one renewal per token: a renewal is only started for the active token
    whose scheduled renewal has not run yet, so no instance is renewed twice -/
theorem C16_once {s : St} (h : Reachable s) : s.renewed.Nodup ∧ ∀ i ∈ s.renewed, s.sched i = false :=
  ⟨(reachable_invM h).sh.onceN, fun i hi => ((reachable_invM h).sh.onceS i hi).1⟩

/-- … and a renewal that failed is never retried: the token simply runs out -/
theorem C16_failed_renewal_is_final (s : St) (h : s.sched s.active = false) : step? s .rLock = none := by
  simp only [step?]
  split <;> simp [h]

/-- (b) no deadlock, in every interleaving (guard not needed): while a renewal
    or a send is in progress some thread can take a step, provided the peer
    answers the OPN request -/
theorem C16_no_deadlock {s : St} (h : Reachable s) (hb : Busy s) : CanMove s := no_deadlock h hb

/-- (b) once no renewal runs the gate is open: a waiting request can proceed -/
theorem C16_gate_reopens {s : St} (h : ReachableG s) (hidle : s.rpc = .idle) (t : Nat) (ht : t < s.n) (hp : s.pc t = .start) :
    (step? s (.gate t)).isSome = true := by
  have := ((reachableG_invG h).sh.gate).1 hidle
  simp [step?, ht, hp, this]

/-- (b) PARTIAL (guard of C11): everything written around any number of
    renewals is consecutively numbered and contiguous, and no sender can reach
    `pendingReq.Add` while the renewer is inside `pendingReq.Wait` -/
theorem C16_requests_survive_partial {s : St} (h : ReachableG s) :
    Linked s.base s.wire ∧
    ((s.rpc = .waiting ∨ s.rpc = .waited) → ∀ t, ∀ i, s.pc t ≠ .hasActive i) := by
  have hi := reachableG_invG h
  refine ⟨hi.sh.linked, ?_⟩
  intro hr t i hp
  rcases hr with hr | hr
  · have := (hi.thr t).early (by simp [hr, RPC.early])
    simp [hp, uncounted] at this
  · have := (hi.thr t).quiet (by simp [hr, RPC.quiet])
    simp [hp, quietPC] at this

/-- FINDING C16.renew-waitgroup-panic (model side): outside the guard a sender
    can execute `pendingReq.Add(1)` after the wait group dropped to zero and
    before `pendingReq.Wait()` has returned in the renewer — the situation in
    which Go's `sync.WaitGroup` panics ("WaitGroup is reused before previous Wait
    has returned") -/
def wgTrace : List Label :=
  [.spawn, .spawn, .gate 0, .getActive 0, .pendAdd 0, .gate 1, .getActive 1,
   .rLock, .rWaitBegin, .lockInst 0, .newMsg 0 1, .write 0 101, .unlockInst 0, .pendDone 0]

theorem C16_finding_waitgroup_reuse :
    (run? (init 100 1) wgTrace).map (fun s => (s.rpc, s.pend.length, (step? s (.pendAdd 1)).isSome)) =
      some (.waited, 0, true) := by decide

/-- FINDING C16.server-rekey-wrong-algorithm (server side): a response sent by
    another goroutine while `readChunk` / `handleOpenSecureChannelRequest` re-key
    the one instance object is secured with the asymmetric algorithm (confirmed on
    the real code by a forced schedule: the client rejects the chunk) -/
theorem C16_finding_server_rekey :
    (rrun? rinit [.readOPN, .sLock 0, .sSecure 0]).map (fun s => s.wire) = some [(false, .asym)] := by decide

/-- (c) PARTIAL (guard: no chunk is secured while an OPN request is processed) -/
theorem C16_rekey_partial {s : RSt} (h : RReachableG s) : AllMsgSym s.wire := (rguard_inv h).2

/-- non-vacuity of (c): a renewal with senders before and after it -/
example :
    (rrun? rinit [.sLock 0, .sSecure 0, .sUnlock 0, .readOPN, .handleAsym, .respLock, .respWrite, .respUnlock, .installSym,
                  .sLock 1, .sSecure 1, .sUnlock 1]).map (fun s => s.wire)
    = some [(false, .sym 1), (true, .asym), (false, .sym 0)] := by decide

end Opcua.Props.C16
