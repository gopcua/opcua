import OpcuaModel.Model.Tokens
/-
  C17 — chunks secured with an expired token are rejected.

  Full strength ("once a token has been replaced and 1.25 · lifetime has
  elapsed, a chunk under that token's keys is rejected") is FALSE for the
  client channel of the unchanged code: `scheduleExpiration` looks the table
  up by the instance's TOKEN id although the table is keyed by CHANNEL id.
  Unless the two numbers coincide the expiry step leaves the channel's entry
  untouched, so every superseded instance — and its keys — is kept until the
  channel is closed (`C17_finding_*`).  What does hold is proved as well: the
  step does its job exactly when token id = channel id (`C17_expiry_*`).
-/
namespace Opcua.Props.C17
open Opcua Opcua.Tokens

/-- FINDING C17.expiry-indexes-by-token-id: for EVERY table and instance whose
    token id differs from its channel id, the expiry step leaves the entry of
    the channel exactly as it was. -/
theorem C17_finding_expiry_noop (t : Table) (i : Inst) (h : i.tok ≠ i.chan) :
    (expire t i).get i.chan = t.get i.chan :=
  expire_get_other t i (fun e => h e.symm)

/-- the only entry the step can change is the one keyed by the token id -/
theorem C17_expiry_touches_only_token_key (t : Table) (i : Inst) (r : Nat) (h : r ≠ i.tok) :
    (expire t i).get r = t.get r := expire_get_other t i h

/-- … so a superseded instance is kept FOREVER: whatever renewals and expiry
    timers follow (in any order, at any time), as long as no expiring token id
    equals the channel id (`NoTokEqChan`), an instance once stored for channel
    `c` is still stored, -/
theorem C17_finding_kept_forever (c : Nat) (evs : List Ev) (t : Table) (i : Inst)
    (hno : NoTokEqChan c evs) (hm : i ∈ t.get c) : i ∈ (runEvs t evs).get c :=
  kept_forever hno hm

/-- … and a chunk secured with its keys is still accepted. -/
theorem C17_finding_old_keys_accepted (c : Nat) (evs : List Ev) (t : Table) (i : Inst)
    (hno : NoTokEqChan c evs) (hm : i ∈ t.get c) :
    ∃ tok, verify (runEvs t evs) c i.key = .accepted tok :=
  verify_accepts_of_mem (C17_finding_kept_forever c evs t i hno hm) rfl

/-- the witness: channel 7, token 1 (keys 101) renewed by token 2 (keys 102);
    the expiry of token 1 fires; a chunk under keys 101 is still accepted, and
    the table still holds both instances -/
theorem C17_finding_witness :
    verdicts [] [.opn ⟨7, 1, 101⟩, .opn ⟨7, 2, 102⟩, .expire ⟨7, 1, 101⟩, .chunk 7 101] = [.accepted 1] ∧
    (runEvs [] [.opn ⟨7, 1, 101⟩, .opn ⟨7, 2, 102⟩, .expire ⟨7, 1, 101⟩]).get 7 = [⟨7, 1, 101⟩, ⟨7, 2, 102⟩] := by
  decide

theorem C17_full_strength_false :
    ¬ (∀ (t : Table) (i : Inst), ∀ tok, verify (expire t i) i.chan i.key ≠ .accepted tok) := by
  intro h
  exact h [(7, [⟨7, 1, 101⟩, ⟨7, 2, 102⟩])] ⟨7, 1, 101⟩ 1 (by decide)

/-! ### what holds: token id = channel id -/

/-- when the token id equals the channel id the step removes exactly the
    instances of that token and keeps all others, in order -/
theorem C17_expiry_when_tok_eq_chan (t : Table) (i : Inst) (h : i.tok = i.chan) :
    (expire t i).get i.chan = (t.get i.chan).filter (fun o => !(o.tok == i.tok)) := by
  rw [← h]; exact expire_get_tok t i

/-- … and then a chunk under the expired token's keys is rejected, provided no
    other stored instance uses the same keys (keys are per token) -/
theorem C17_rejected_when_tok_eq_chan (t : Table) (i : Inst) (h : i.tok = i.chan)
    (huniq : ∀ o ∈ t.get i.chan, o.key = i.key → o.tok = i.tok) :
    ∀ tok, verify (expire t i) i.chan i.key ≠ .accepted tok := by
  rw [← h] at huniq ⊢
  exact verify_expire_rejects t i i.key huniq

/-! ### channels in mode None

  The property speaks of chunks "protected with that token's keys"; a mode-None
  channel has no keys, so its statement does not apply there — but the code's
  behaviour is worth stating: the token id a chunk carries is never looked at
  (in any mode: `readChunk` decodes the symmetric security header and drops
  it), and in mode None every chunk for a channel id with a stored instance is
  accepted. -/

/-- in mode None the verdicts of a run do not depend on the second component
    of a chunk event (keys / token id) at all, whatever was renewed or has
    expired in between -/
theorem C17_none_mode_accepts_every_token (t : Table) (evs : List Ev) (c k k' : Nat) (rest : List Ev) :
    verdictsNone t (evs ++ .chunk c k :: rest) = verdictsNone t (evs ++ .chunk c k' :: rest) := by
  induction evs generalizing t with
  | nil => simp [verdictsNone]
  | cons e r ih => cases e <;> simp [verdictsNone, ih]

theorem C17_none_mode_accepted_iff (t : Table) (c : Nat) :
    (∃ tok, verifyNone t c = .accepted tok) ↔ t.get c ≠ [] := by
  unfold verifyNone
  cases h : (t.get c).reverse with
  | nil => simp [List.reverse_eq_nil_iff.mp h]
  | cons i l =>
    have : t.get c ≠ [] := by
      intro h0; rw [h0] at h; cases h
    simp [this]

/-- so an instance that survives its expiry (token id ≠ channel id) keeps the
    channel open for any chunk; and when token id = channel id and the expiry
    removes the only instance, the channel accepts nothing any more -/
theorem C17_none_mode_witness :
    verdictsNone [] [.opn ⟨7, 1, 0⟩, .chunk 7 99, .opn ⟨7, 2, 0⟩, .expire ⟨7, 1, 0⟩, .chunk 7 1, .chunk 8 1,
                     .opn ⟨5, 5, 0⟩, .expire ⟨5, 5, 0⟩, .chunk 5 5] =
      [.accepted 1, .accepted 2, .noInstance, .noInstance] := by decide

/-- non-vacuity: channel 5 whose first token is also numbered 5 — the first
    token does expire, the second (6 ≠ 5) never does -/
example :
    verdicts [] [.opn ⟨5, 5, 1⟩, .opn ⟨5, 6, 2⟩, .chunk 5 1, .expire ⟨5, 5, 1⟩, .chunk 5 1, .chunk 5 2,
                 .opn ⟨5, 7, 3⟩, .expire ⟨5, 6, 2⟩, .chunk 5 2, .chunk 9 1] =
      [.accepted 5, .securityFailed, .accepted 6, .accepted 6, .noInstance] := by decide

end Opcua.Props.C17
