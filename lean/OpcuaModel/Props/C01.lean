import OpcuaModel.Model.CodecMain
import OpcuaModel.Model.CodecExtra
import OpcuaModel.Gen.Types
/-
  C01 — the binary codec round-trips every value of every protocol type.

  `encode` / `decode` (Model/Codec.lean) mirror `ua/encode.go`, `ua/decode.go`,
  `ua/buffer.go` and the hand-written codecs; `Gen.extObjTypes`,
  `Gen.serviceTypes`, `Gen.namedTypes` are regenerated from the `ua` type
  registries on every run.  `wt` (Model/CodecWt.lean) is the domain: well-formed
  values, DateTime inside the int64-nanosecond range, minus the finding
  signatures below.  `norm` is the documented normalisation.  `fuel` bounds the
  nesting depth of coder calls; `wt env fuel t v` implies that `fuel` suffices.
-/
namespace Opcua.Props.C01
open Opcua Opcua.Codec

/-- the codec as the real code runs it: no allocation budget, the generated extension object registry -/
def env : Env := { limit := none, exts := Gen.extObjTypes }

/-- **Round trip.**  Every well-typed value of every type encodes, and decoding the
    bytes (followed by anything) yields the normalised value and consumes exactly
    the encoded bytes. -/
theorem C01_roundtrip (fuel : Nat) (t : Ty) (v : Val) (rest : Bytes) (a : Nat) (h : wt env fuel t v = true) :
    ∃ bs, encode env fuel t v = .ok bs ∧
      decode env fuel t ⟨bs ++ rest, a⟩ = .ok (norm env fuel t v) ⟨rest, a⟩ := by
  obtain ⟨bs, hb, r⟩ := rt_all env rfl fuel t v h
  exact ⟨bs, hb, r rest a⟩

/-- the descriptors generated from the registries are descriptors the reflective walk
    treats the way the model does (no pointer to pointer, no pointer to a type with a
    hand-written codec, `[]byte` only as the fast path, integer widths 1/2/4/8) -/
theorem C01_registered_wf : (Gen.namedTypes.all fun p => wfTy p.2) = true := by decide +kernel

/-- every registered extension object and service type has a value in the domain of
    `C01_roundtrip` (so the theorem is not vacuous for any registered type).  Depth 40 is ample: by evaluation the
    zero values pass from depth 7 on -/
theorem C01_registered_inhabited :
    ((Gen.extObjTypes ++ Gen.serviceTypes).all fun e => wt env 40 (.ptr e.ty) (zeroVal 40 (.ptr e.ty))) = true := by
  decide +kernel

/-- `C01_roundtrip` instantiated at the registered types, as `ua.Encode(&T{…})` / `ua.Decode(b, &T{})` see them -/
theorem C01_registered_roundtrip (e : RegEntry) (_ : e ∈ Gen.extObjTypes ++ Gen.serviceTypes)
    (fuel : Nat) (v : Val) (rest : Bytes) (h : wt env fuel (.ptr e.ty) v = true) :
    ∃ bs, encode env fuel (.ptr e.ty) v = .ok bs ∧
      decode env fuel (.ptr e.ty) ⟨bs ++ rest, 0⟩ = .ok (norm env fuel (.ptr e.ty) v) ⟨rest, 0⟩ :=
  C01_roundtrip fuel _ v rest 0 h

/-- every service entry is found under its own id, and a four-byte node id in namespace 0 is that key -/
theorem C01_service_ids :
    (Gen.serviceTypes.all fun e =>
      decide (e.id < 65536) &&
      ((regKey ⟨1, 0, e.id, none, none⟩).bind (fun k => findIdx (·.id == k) Gen.serviceTypes 0)
        |>.map (fun i => (Gen.serviceTypes.getD i default).name)) == some e.name) = true := by
  decide +kernel

/-- **DecodeService.**  The type id followed by the encoded service struct decodes to that struct. -/
theorem C01_service (fuel : Nat) (tid : ExpNodeId) (i : Nat) (v : Val) (rest : Bytes) (a : Nat)
    (htid : wtExp tid = true)
    (hk : ((normExp tid).nodeId.bind regKey |>.bind fun k => findIdx (·.id == k) Gen.serviceTypes 0) = some i)
    (h : wt env fuel (.ptr (Gen.serviceTypes.getD i default).ty) v = true) :
    ∃ tb bs, encExpNodeId tid = .ok tb ∧ encode env fuel (.ptr (Gen.serviceTypes.getD i default).ty) v = .ok bs ∧
      decService Gen.serviceTypes (decode env fuel) ⟨tb ++ bs ++ rest, a⟩
        = .ok (normExp tid, (Gen.serviceTypes.getD i default).name,
            norm env fuel (.ptr (Gen.serviceTypes.getD i default).ty) v) ⟨rest, a⟩ := by
  obtain ⟨tb, htb, rt⟩ := rt_decExpNodeId tid htid
  obtain ⟨bs, hbs, rb⟩ := rt_all env rfl fuel _ v h
  refine ⟨tb, bs, htb, hbs, ?_⟩
  unfold decService
  rw [List.append_assoc, rt.step]
  simp only [hk]
  rw [rb.step]
  rfl

/-! ### findings: values `ua.NewVariant` / `ua.NewExtensionObject` accept that do not round-trip -/

/-- `[][]int32{{},{}}`: a multi-dimensional array with a zero-length dimension encodes, but `Variant.Decode`
    rejects a dimension below 1 -/
theorem C01_finding_variant_zero_dim :
    ∃ m bs, newVariant ⟨6, 2⟩ (.slice false [.slice false [], .slice false []]) = .ok m ∧
      encode env 3 .variant m = .ok bs ∧ decode env 3 .variant ⟨bs, 0⟩ = .fail .err ∧
      wt env 3 .variant m = false :=
  ⟨_, _, rfl, rfl, rfl, rfl⟩

/-- `[][]int32{}`: an empty multi-dimensional array is encoded as an empty array of Variant and comes back as `[]*Variant{}` -/
theorem C01_finding_variant_empty_multidim :
    ∃ m bs, newVariant ⟨6, 2⟩ (.slice false []) = .ok m ∧ encode env 3 .variant m = .ok bs ∧
      decode env 3 .variant ⟨bs, 0⟩ = .ok (.variant 0x98 0 0 none ⟨24, 1⟩ (.slice false [])) ⟨[], 0⟩ ∧
      m = .variant 0x98 0 0 none ⟨6, 2⟩ (.slice false []) ∧ wt env 3 .variant m = false :=
  ⟨_, _, rfl, rfl, rfl, rfl, rfl⟩

/-- repaired (was finding C01.variant-bytestring-array): `[][]byte{{1},{2,3}}`, an array of ByteStrings of different
    lengths, is accepted by `NewVariant`, lies in the domain, and round-trips.  `Variant.encode` used to hand the whole
    `[][]byte` to `encodeValue`, which wrote no element (`8f02000000`), and `sliceDim` refused ByteStrings of
    different lengths as an unbalanced matrix. -/
theorem C01_fixed_variant_bytestring_array :
    ∃ m, newVariant ⟨15, 1⟩ (.slice false [.bytes (some [1]), .bytes (some [2, 3])]) = .ok m ∧
      wt env 3 .variant m = true ∧
      encode env 3 .variant m = .ok [0x8f, 2, 0, 0, 0, 1, 0, 0, 0, 1, 2, 0, 0, 0, 2, 3] ∧
      decode env 3 .variant ⟨[0x8f, 2, 0, 0, 0, 1, 0, 0, 0, 1, 2, 0, 0, 0, 2, 3], 0⟩ = .ok m ⟨[], 0⟩ :=
  ⟨_, rfl, rfl, rfl, rfl⟩

/-- `[][][]int32{{{1},{2}},{{3,4},{5,6}}}`: `sliceDim` only follows the first element of every level, so a ragged
    array is accepted with dimensions [2 2 1] and length 4, six elements are written, and decoding fails -/
theorem C01_finding_variant_ragged :
    ∃ m bs, newVariant ⟨6, 3⟩ (.slice false [
        .slice false [.slice false [.int 1], .slice false [.int 2]],
        .slice false [.slice false [.int 3, .int 4], .slice false [.int 5, .int 6]]]) = .ok m ∧
      encode env 4 .variant m = .ok bs ∧ decode env 4 .variant ⟨bs, 0⟩ = .fail .err ∧
      wt env 4 .variant m = false := by
  -- with smart unfolding the elaborator evaluates the decoded element list again at every use in `split`
  set_option smartUnfolding false in exact ⟨_, _, rfl, rfl, rfl, rfl⟩

/-- repaired (was finding C01.variant-nil-inner-slice): `NewVariant([][]int32{nil, nil})` is refused.  `sliceDim` used
    to multiply the "nil" count −1 of the inner slice by the outer length (array length −2), and `Encode` wrote
    `86 fe ff ff ff`, bytes no decoder accepts (ours panicked on them until C02.variant-neg-len was repaired). -/
theorem C01_fixed_variant_nil_inner_slice :
    newVariant ⟨6, 2⟩ (.slice false [.slice true [], .slice true []]) = .error .err ∧
    newVariant ⟨12, 3⟩ (.slice false [.slice false [.slice true []], .slice false [.slice true []]]) = .error .err :=
  ⟨rfl, rfl⟩

/-- an extension object whose value encodes to zero bytes (`&ua.DataTypeDefinition{}`, registered under i=121, has
    no fields): `ExtensionObject.Decode` treats body length 0 as "no value" and returns `Value == nil` -/
theorem C01_finding_extobj_empty_body :
    encode env 5 .extObj (.extObj 1 (some ⟨some ⟨1, 0, 121, none, none⟩, [], 0⟩) "DataTypeDefinition" (.ptr (.struct [])))
        = .ok [1, 0, 121, 0, 1, 0, 0, 0, 0] ∧
      decode env 5 .extObj ⟨[1, 0, 121, 0, 1, 0, 0, 0, 0], 0⟩
        = .ok (.extObj 1 (some ⟨some ⟨1, 0, 121, none, none⟩, [], 0⟩) "" .nil) ⟨[], 0⟩ ∧
      wt env 5 .extObj (.extObj 1 (some ⟨some ⟨1, 0, 121, none, none⟩, [], 0⟩) "DataTypeDefinition" (.ptr (.struct []))) = false :=
  ⟨rfl, rfl, rfl⟩

/-! ### the exclusions of `wt` about pointers are visible: what the encoder does with nil pointers -/

/-- a nil pointer to a plain struct encodes to nothing (the following fields shift) -/
theorem C01_nil_pointer_encodes_nothing (fuel : Nat) (e : Ty) : encode env (fuel + 1) (.ptr e) .nil = .ok [] := by
  simp [encode]

/-- a nil pointer to a type with a hand-written codec calls it with a nil receiver: panic
    (error for `*ExpandedNodeID`, the empty object for `*ExtensionObject`) -/
theorem C01_nil_custom_pointer (fuel : Nat) :
    encode env (fuel + 1) .nodeId .nil = .error .panicNilPtr ∧ encode env (fuel + 1) .variant .nil = .error .panicNilPtr ∧
    encode env (fuel + 1) .dataValue .nil = .error .panicNilPtr ∧ encode env (fuel + 1) .guid .nil = .error .panicNilPtr ∧
    encode env (fuel + 1) .locText .nil = .error .panicNilPtr ∧ encode env (fuel + 1) .diag .nil = .error .panicNilPtr ∧
    encode env (fuel + 1) .expNodeId .nil = .error .err ∧ encode env (fuel + 1) .extObj .nil = .ok [0, 0, 0] := by
  simp [encode]
  rfl

/-! ### non-vacuity -/

/-- a 2×3 Int32 array built by `NewVariant` lies in the domain and round-trips to itself -/
example :
    ∃ m bs, newVariant ⟨6, 2⟩ (.slice false [.slice false [.int 1, .int 2, .int 3], .slice false [.int 4, .int 5, .int 6]]) = .ok m ∧
      wt env 4 .variant m = true ∧ encode env 4 .variant m = .ok bs ∧
      decode env 4 .variant ⟨bs ++ [0xaa], 0⟩ = .ok m ⟨[0xaa], 0⟩ := by
  set_option smartUnfolding false in exact ⟨_, _, rfl, rfl, rfl, rfl⟩

/-- a `ReadResponse` with one DataValue (Int32 42, status, source timestamp 100 ns after the Unix epoch + 7 ns) -/
example :
    let v : Val := .ptr (.struct [
      .ptr (.struct [.time (some 1000000000), .int 7, .int 0, .diag [⟨0, 0, 0, 0, 0, [], 0⟩], .slice true [], .nil]),
      .slice false [.dataValue 7 (.variant 6 0 0 none ⟨6, 0⟩ (.int 42)) 2147483648 (some 107) 0 none 0],
      .slice true []])
    wt env 12 (.ptr Gen.T_ReadResponse) v = true ∧
    norm env 12 (.ptr Gen.T_ReadResponse) v = .ptr (.struct [
      .ptr (.struct [.time (some 1000000000), .int 7, .int 0, .diag [⟨0, 0, 0, 0, 0, [], 0⟩], .slice true [], emptyExtObj]),
      .slice false [.dataValue 7 (.variant 6 0 0 none ⟨6, 0⟩ (.int 42)) 2147483648 (some 100) 0 none 0],
      .slice true []]) :=
  ⟨rfl, rfl⟩

end Opcua.Props.C01
