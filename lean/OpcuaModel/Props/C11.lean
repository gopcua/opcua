import OpcuaModel.Model.SendSeqInv
import OpcuaModel.Model.SendGate
import OpcuaModel.Gen.SeqNum
import OpcuaModel.Gen.SendFacts
/-
  C11 — outgoing sequence numbers increase by one per chunk, even across
  renewals, and the chunks of one message are never interleaved with another.

  `SendSeq.step?` is the LTS of concurrent senders and the token renewal (see
  the model file), `Linked base wire` says: every chunk carries
  `nextSequenceNumber` of its predecessor's number (the machine-translated
  function, wrap included) and a message's chunks are adjacent.

  Full strength (`Reachable s → Linked …`) is FALSE for the code as it is:
  three machine-checked counterexample traces in this LTS (findings stale-counter,
  failed-renewal, aborted-send; two more in the gate LTS at the end of the
  file).  `C11_partial` proves it for every state reachable under the decidable
  guard `SendSeq.Guard`.
-/
namespace Opcua.Props.C11
open Opcua Opcua.SendSeq

/-- The atomicity and the orders the LTS assumes, re-extracted from the source:
    `sequenceNumber` is only touched under the instance mutex (except the
    constructor and `open`, whose caller `renew` holds it), `activeInstance`
    under `instancesMu`, the flag of a condition locker under its `lockMu`;
    `renew` locks the gate, waits for the wait group, locks the old instance and
    opens, in this order; a request passes the gate before it reads the active
    instance, and is counted by `pendingReq` only inside `sendRequestWithTimeout`. -/
theorem C11_facts :
    ((Gen.SendFacts.accesses.filter (fun a => a.field == "sequenceNumber" && a.fn != "NewServerSecureChannel" && a.fn != "open")).all
        (·.held.contains "inst") = true) ∧
    ((Gen.SendFacts.accesses.filter (·.field == "activeInstance")).all (·.held.contains "instancesMu") = true) ∧
    ((Gen.SendFacts.accesses.filter (·.field == "bLock")).all (·.held.contains "lockMu") = true) ∧
    (Gen.SendFacts.order_renew.filter (fun c => c != "s.reqLocker.unlock" && c != "context.Background")
        = ["s.reqLocker.lock", "s.pendingReq.Wait", "instance.Lock", "s.open"]) ∧
    (Gen.SendFacts.order_SendRequestWithTimeout.take 2 = ["s.reqLocker.waitIfLock", "s.getActiveChannelInstance"]) ∧
    (Gen.SendFacts.order_sendRequestWithTimeout.take 3 = ["s.pendingReq.Add", "s.sendAsyncWithTimeout", "s.pendingReq.Done"]) := by
  decide

/-- sequence numbers alone: newest first, each number is `next` of the one before -/
def Consecutive (base : Int) : List Chunk → Prop
  | [] => True
  | [c] => c.seq = next base
  | c2 :: c1 :: rest => c2.seq = next c1.seq ∧ Consecutive base (c1 :: rest)

instance (b : Int) : (w : List Chunk) → Decidable (Consecutive b w)
  | [] => isTrue trivial
  | [c] => by unfold Consecutive; exact inferInstance
  | c2 :: c1 :: rest => by
    unfold Consecutive
    have := instDecidableConsecutive b (c1 :: rest)
    exact inferInstance

/-- chunk adjacency alone -/
def Contiguous : List Chunk → Prop
  | [] => True
  | [c] => c.idx = 0
  | c2 :: c1 :: rest => Adj c2 c1 ∧ Contiguous (c1 :: rest)

theorem linked_split (base : Int) (w : List Chunk) : Linked base w ↔ Consecutive base w ∧ Contiguous w := by
  induction w with
  | nil => simp [Linked, Consecutive, Contiguous]
  | cons c w ih =>
    cases w with
    | nil => simp [Linked, Consecutive, Contiguous]
    | cons c1 rest =>
      simp only [Linked, Consecutive, Contiguous, ih, and_assoc, and_left_comm]

/-- PARTIAL (guard: `SendSeq.Guard`): for any number of request and response
    senders, any number of successive renewals and any interleaving that stays
    inside the guard, the wire is consecutively numbered and messages are contiguous -/
theorem C11_partial {s : St} (h : ReachableG s) : Consecutive s.base s.wire ∧ Contiguous s.wire :=
  (linked_split _ _).1 (reachableG_invG h).sh.linked

/-- states reachable without any renewal and without aborted sends (server
    channels; a client channel between renewals) -/
inductive ReachableFixed : St → Prop where
  | init (b : Int) (tk : Nat) : ReachableFixed (init b tk)
  | step {s s' : St} (l : Label) : ReachableFixed s → l ≠ .rLock → (∀ t, l ≠ .abort t) → step? s l = some s' → ReachableFixed s'

theorem fixed_idle_reachableG {s : St} (h : ReachableFixed s) : s.rpc = .idle ∧ ReachableG s := by
  induction h with
  | init b tk => exact ⟨rfl, ReachableG.init b tk⟩
  | @step s0 s1 l _ hl ha hs ih =>
    obtain ⟨hi, hg⟩ := ih
    have keep (hG : Guard s0 l) (hr : s1.rpc = .idle) := And.intro hr (ReachableG.step l hg hG hs)
    -- with the renewer idle only `rLock` and the senders' rules can fire; of these the guard restricts
    -- `respGetActive` and `abort`
    cases Step.of hs with
    | rLock => exact absurd rfl hl
    | abort t => exact absurd rfl (ha t)
    | respGetActive => exact keep hi hi
    | pendDone =>
      exact keep trivial (settle_cases (P := fun s => s.rpc = .idle) (fun hw _ => nomatch hi.symm.trans hw) (fun _ => hi))
    | rWaitBegin hr | rWaitDone hr | rLockOld hr | rCopy hr | rSendOPN _ _ hr | rInstall _ _ hr | rFail _ hr
    | rUnlock hr => exact nomatch hi.symm.trans hr
    | rUnlockOld j hr => exact hr.elim (nomatch hi.symm.trans ·) (nomatch hi.symm.trans ·)
    | _ => exact keep trivial hi

/-- for a fixed token (no renewal) the property holds at full strength -/
theorem C11_fixed_token {s : St} (h : ReachableFixed s) : Consecutive s.base s.wire ∧ Contiguous s.wire :=
  C11_partial (fixed_idle_reachableG h).2

/-- the wrap of the machine-translated `nextSequenceNumber` is the one the
    specification allows (Part 6, 6.7.2.4: no wrap until the number is greater
    than 4 294 966 271, first number after the wrap below 1024) -/
theorem C11_wrap_spec (n : Int) (h0 : 0 ≤ n) (h1 : n ≤ 4294966272) :
    (n < 4294966272 → next n = n + 1) ∧ (n = 4294966272 → next n = 1) ∧
    1 ≤ next n ∧ next n ≤ 4294966272 ∧ (next n ≠ n + 1 → n > 4294966271 ∧ next n < 1024) := by
  simp only [next, Gen.nextSequenceNumber, decide_eq_true_eq]
  split <;> omega

/-- FINDING C11.stale-counter-after-renewal.  A sender that passed the gate and
    read the active instance before the renewal starts is not counted by
    `pendingReq`; after the renewal it numbers its chunk from the old instance's
    counter, which `open` had copied into the new one: the OPN request and the
    MSG chunk carry the same number (and the MSG the old token). -/
def staleTrace : List Label :=
  [.spawn, .gate 0, .getActive 0,
   .rLock, .rWaitBegin, .rWaitDone, .rLockOld, .rCopy, .rSendOPN 101, .rInstall 2, .rUnlockOld, .rUnlock,
   .pendAdd 0, .lockInst 0, .newMsg 0 1, .write 0 101]

theorem C11_finding_stale_counter :
    (run? (init 100 1) staleTrace).map (fun s => s.wire.map (fun c => (c.opn, c.tok, c.seq))) =
      some [(false, 1, 101), (true, 0, 101)] ∧
    (run? (init 100 1) staleTrace).map (fun s => decide (Consecutive s.base s.wire)) = some false := by
  decide

/-- FINDING C11.failed-renewal-burns-number.  A renewal whose OPN request is not
    answered leaves the old token active with its old counter, although the OPN
    request already used the next number. -/
def failedTrace : List Label :=
  [.spawn, .rLock, .rWaitBegin, .rWaitDone, .rLockOld, .rCopy, .rSendOPN 101, .rFail, .rUnlockOld, .rUnlock,
   .gate 0, .getActive 0, .pendAdd 0, .lockInst 0, .newMsg 0 1, .write 0 101]

theorem C11_finding_failed_renewal :
    (run? (init 100 1) failedTrace).map (fun s => s.wire.map (fun c => (c.opn, c.tok, c.seq))) =
      some [(false, 1, 101), (true, 0, 101)] := by
  decide

/-- FINDING C11.aborted-send-burns-number (narrowed by a repair: a context that is
    already done is now detected before `newRequestMessage`, label `unlockInst`
    straight after `lockInst`).  `newRequestMessage` still draws the number before
    the message is encoded, signed and written: a request that fails after that
    point (context ends in between, encode / sign / write error — label `abort`)
    has consumed a number and writes nothing; the next chunk skips one. -/
def abortTrace : List Label :=
  [.spawn, .spawn, .gate 0, .getActive 0, .pendAdd 0, .lockInst 0, .newMsg 0 1, .abort 0, .unlockInst 0, .pendDone 0,
   .gate 1, .getActive 1, .pendAdd 1, .lockInst 1, .newMsg 1 1, .write 1 102]

theorem C11_finding_aborted_send :
    (run? (init 100 1) abortTrace).map (fun s => s.wire.map (fun c => c.seq)) = some [102] ∧
    next 100 = 101 := by
  decide

/-- repaired part: a request whose context is already done draws no number —
    the thread unlocks straight after locking and the wire stays consecutive -/
theorem C11_cancelled_before_numbering_is_harmless :
    (run? (init 100 1)
      [.spawn, .spawn, .gate 0, .getActive 0, .pendAdd 0, .lockInst 0, .unlockInst 0, .pendDone 0,
       .gate 1, .getActive 1, .pendAdd 1, .lockInst 1, .newMsg 1 1, .write 1 101]).map
      (fun s => (s.wire.map (fun c => c.seq), decide (Consecutive s.base s.wire))) = some ([101], true) := by
  decide

theorem C11_not_full : ¬ ∀ s, Reachable s → Consecutive s.base s.wire := fun h =>
  have ⟨s, hs, hd⟩ := Option.map_eq_some_iff.1 C11_finding_stale_counter.2
  of_decide_eq_false hd (h s (reachable_run staleTrace (.init 100 1) hs))

/-- the guard is what separates the two: the stale trace leaves it exactly at
    `rLock` (thread 0 sits between the gate and `pendingReq.Add`) -/
theorem C11_guard_excludes_stale :
    (run? (init 100 1) (staleTrace.take 3)).map (fun s => decide (Guard s .rLock)) = some false := by
  decide

/-! ### several renewers and `Close()` on the gate (`Model/SendGate.lean`)

The sender / renewal LTS above has one renewer; its invariant `gate` ("the gate
is closed exactly while the renewer is busy") is what the gate LTS examines for
any number of renewers (`Renew()` called during a scheduled renewal) and
`Close()`. -/

/-- PARTIAL (guard: one renewal at a time, no `Close()` during a renewal): the gate
    is closed exactly while a renewal is in progress and no request passes it meanwhile -/
theorem C11_gate_partial {s : SendGate.St} (h : SendGate.ReachableG s) :
    (s.holders ≠ [] ↔ s.locked = true) ∧ s.badPass = 0 :=
  ⟨(SendGate.guarded_inv h).2.1, (SendGate.guarded_inv h).2.2⟩

/-- FINDING C11.overlapping-renewals: `conditionLocker.lock()` does not block, so a
    second `renew` (public `Renew()` during the scheduled renewal) proceeds, and the
    first one's `unlock()` opens the gate while the second renewal is in progress:
    requests pass, and the second renewal — which waited for the old instance's
    mutex — renews the superseded token from its stale counter -/
theorem C11_finding_overlapping_renewals :
    (SendGate.run? SendGate.init [.rLock 0, .rLock 1, .rUnlock 0, .pass 7]).map
      (fun s => (s.locked, s.holders, s.badPass)) = some (false, [1], 1) := by decide

/-- `Close()` during a renewal opens the gate as well (model level) -/
theorem C11_gate_close_counterexample :
    (SendGate.run? SendGate.init [.rLock 0, .close, .pass 7]).map
      (fun s => (s.locked, s.holders, s.badPass)) = some (false, [0], 1) := by decide

/-- non-vacuity of the partial theorem: two senders with a three-chunk and a
    one-chunk message around a complete renewal.  Every label of the trace
    satisfies `Guard` in the state it is taken in (at `rLock` sender 0 is inside
    its message, counted by `pendingReq`, and the renewer then waits for it);
    the example evaluates the wire only -/
example :
    (run? (init 4294966270 1)
      [.spawn, .spawn, .gate 0, .getActive 0, .pendAdd 0, .lockInst 0, .newMsg 0 3, .write 0 4294966271,
       .rLock, .rWaitBegin, .write 0 4294966272, .write 0 1, .unlockInst 0, .pendDone 0,
       .rWaitDone, .rLockOld, .rCopy, .rSendOPN 2, .rInstall 2, .rUnlockOld, .rUnlock,
       .gate 1, .getActive 1, .pendAdd 1, .lockInst 1, .newMsg 1 1, .write 1 3, .unlockInst 1, .pendDone 1]).map
      (fun s => (s.wire.map (fun c => (c.tok, c.seq)), decide (Linked s.base s.wire)))
    = some ([(2, 3), (0, 2), (1, 1), (1, 4294966272), (1, 4294966271)], true) := by decide

end Opcua.Props.C11
