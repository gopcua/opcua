import OpcuaModel.Model.SrvRobustLemmas
import OpcuaModel.Model.SrvNotifyLemmas
/-
  C29 — no client can crash or hang the server.

  `Srv.step` (Model/SrvHandlers.lean) gives every handler as a total function
  state × token × request shape → state × (answer | fault | crash); a `crash`
  is an unrecovered Go panic in the dispatcher goroutine or a subscription
  goroutine (`Gen.SrvRobust.recoverers = []`): the process exits.
  `Srv.dispatch` models the single dispatcher that writes responses without a
  deadline.

  Handlers: the crashing request shapes of the model are characterised exactly
  (C29_crash_iff: crash ⇔ ¬ safe, with `safe` reading the regenerated source
  facts).  All handler-level crash sites found on the original code have been
  repaired; with the regenerated facts of the current tree the property holds
  at FULL STRENGTH for the handlers: in every well-formed state — the empty
  server is one and every request keeps it so — no request shape with any token
  makes the process exit, a Browse of class `loopPanics` apart, which no Browse has
  (C29_wf_invariant, C29_nopanic, C29_nopanic_sequences, C29_browse_no_loop);
  the C29_repaired_* lemmas restate the former counterexamples.  A reverted
  repair flips a fact and breaks these proofs.
  Hang: still FALSE — one client that does not read its responses blocks the
  single dispatcher for everybody (C29_finding_nonreading_hang); with reading
  clients everybody is served (C29_readers_served).
-/
namespace Opcua.Props.C29
open Opcua Opcua.Srv Opcua.Gen.SrvRobust

/-! ### source facts -/

/-- The regenerated facts the model reads: the repairs of the handlers are in place (first ten), `handleService`
    runs inline in the only dispatcher loop, responses are written without a deadline, nothing in packages
    server / uasc recovers from a panic, `suitableRefType` does not contain the loop around `slices.Delete`,
    a signed chunk's length is checked, and `Receive` reads into a slice of full capacity. -/
theorem C29_facts :
    Gen.SrvSession.subIdByLen = false ∧ Gen.SrvSession.setModeUnknownContinues = true ∧
    Gen.SrvSession.setModeMismatchContinues = true ∧ Gen.SrvSession.delItemsUnknownContinues = true ∧
    Gen.SrvSession.delItemsMismatchContinues = true ∧
    Gen.SrvSession.newSessionSignatureChecked = true ∧ Gen.SrvSession.verifySessionSignatureChecked = true ∧
    Gen.SrvSession.findServersChecksEndpoints = true ∧ Gen.SrvSession.dataTypeAssertionChecked = true ∧
    Gen.SrvSession.publishingIntervalRevised = true ∧
    dispatcherInline = true ∧ responseWriteDeadline = false ∧ recoverers = [] ∧ refTypeDeleteLoop = false ∧
    signedChunkLengthChecked = true ∧ receiveBufFullCapacity = true := by decide

/-- On the regenerated `getSubRefs` lists the deletion loop of `suitableRefType` panics for exactly
    these reference types: References, HierarchicalReferences, HasChild (relevant only while
    `refTypeDeleteLoop` holds). -/
theorem C29_browse_table :
    (subRefs.filter fun p => listPanics p.2).map (·.1) = [31, 33, 34] := by decide +kernel

/-- Whatever the list: once `HasSubtype` sits at an index n > 0 the loop never terminates normally —
    it deletes index n until `slices.Delete` is out of range. -/
theorem C29_deleteLoop_always_panics (l : List Nat) (n : Nat) (hn : 0 < n) :
    deleteLoop (l.length + 1) l n = none :=
  deleteLoop_panics (l.length + 1) l n hn (by omega) (by omega)

/-- `time.NewTicker` gets a non-positive duration for every interval below one millisecond … -/
theorem C29_interval_subms (dur : Int) (h1 : dur ≤ 0) (h2 : -9223372036854 < dur) :
    intervalOf dur = .subMs := by
  rw [intervalOf, wrap64_of_inRange _ (by omega) (by omega)]
  exact if_pos (by omega)

/-- … and a positive one for every interval from 1 ms up to 292 years. -/
theorem C29_interval_ok (dur : Int) (h1 : 0 < dur) (h2 : dur < 9223372036854) :
    intervalOf dur ≠ .subMs := by
  rw [intervalOf, wrap64_of_inRange _ (by omega) (by omega), if_neg (by omega)]
  split <;> simp

/-! ### the handlers: exactly which request shapes crash -/

/-- A request crashes the server iff it is not `safe` — for every state, token and request.
    `safe` = the dispatcher answers itself (no handler, stub, nil-checked session lookup that fails:
    all read from the regenerated table) or the handler body cannot panic on this shape. -/
theorem C29_crash_iff (st : St) (t : Tok) (r : Req) :
    (step st t r).2.isCrash = !safe st t r := by
  unfold safe
  cases hp : preempted st t r with
  | true => simp [step_preempted st t r hp]
  | false => rw [step_not_preempted st t r hp, body_crash_iff]; simp

/-- C29 for the handlers, on the part of the input space where it holds. -/
theorem C29_nopanic_partial (st : St) (t : Tok) (r : Req) (g : safe st t r = true) :
    (step st t r).2.isCrash = false := by
  rw [C29_crash_iff, g]; rfl

/-- A safe request sequence never loses the server. -/
theorem C29_sequence_partial (st : St) (l : List (Tok × Req))
    (g : ∀ x ∈ l, ∀ st', safe st' x.1 x.2 = true) : (runSteps st l).2.isCrash = false :=
  runSteps_isCrash (P := fun _ => True)
    (fun x hx st' _ => ⟨C29_nopanic_partial st' x.1 x.2 (g x hx st'), trivial⟩) trivial

/-- Every crashing request of the model falls under one of the recorded signatures. -/
theorem C29_sig_cover (st : St) (t : Tok) (r : Req) (h : (step st t r).2.isCrash = true) :
    sig29 st t r ≠ "C29.unclassified" := by
  rw [C29_crash_iff] at h
  unfold safe at h
  have hb : safeBody st t r = false := by
    cases hs : safeBody st t r with
    | false => rfl
    | true => simp [hs] at h
  -- `safeBody` can be false only for the nine request kinds to which `sig29` gives a signature
  cases r <;> simp [safeBody] at hb <;> simp [sig29] <;> (try split) <;> simp

/-! ### the recorded counterexamples, on the repaired code -/

/-- session 1 created and activated, session 2 created and activated, subscription 1 (item 1) owned
    by session 1, subscription 2 owned by session 2 -/
def st2 : St :=
  { sessions := [⟨1, true, 0, true⟩, ⟨2, true, 0, true⟩], subs := [⟨1, some 1⟩, ⟨2, some 2⟩], items := [⟨1, 1⟩], nextItem := 1, lastSub := 2, value := 5 }

/-- repaired (was finding C29.findservers-no-endpoints): FindServers on a server without endpoints
    answers (with an empty server list) instead of indexing an empty slice. -/
theorem C29_repaired_findservers (st : St) (t : Tok) : step st t .findServers = (st, .ok "") := by
  simp [step_eq, body, C29_facts]

/-- repaired (was findings C29.createsession-nonrsa-certificate / C29.activatesession-nonrsa-certificate):
    a client certificate without RSA key is refused with a fault on signed channels, by CreateSession
    (BadCertificateInvalid) and by ActivateSession (BadSecurityChecksFailed). -/
theorem C29_repaired_nonrsa_certificate :
    (step st2 0 (.createSession 3 true .nonRsa)).2 = .fault "BadCertificateInvalid" ∧
    (step st2 0 (.createSession 3 true .unparsable)).2 = .fault "BadInternalError" ∧
    (step st2 0 (.createSession 3 false .nonRsa)).2 = .ok "" ∧
    (step { st2 with sessions := [⟨3, false, 0, false⟩] } 3 (.activateSession true true)).2 = .fault "BadSecurityChecksFailed" := by
  simp only [step_eq]; decide +kernel

/-- repaired (was finding C29.createsubscription-nonpositive-interval): the raw arithmetic still says
    that 0 ms, NaN (→ minimum int64) or an overflowing value would hand `time.NewTicker` a non-positive
    duration, but CreateSubscription now revises the interval first (regenerated fact
    `publishingIntervalRevised`): no interval class kills the subscription goroutine. -/
theorem C29_repaired_interval :
    intervalOf 0 = .subMs ∧ intervalOf (-9223372036854775808) = .subMs ∧ intervalOf 9223372036855 = .subMs ∧
    Gen.SrvSession.publishingIntervalRevised = true ∧
    (step st2 1 (.createSubscription .subMs)).2 = .ok "" ∧
    (step st2 1 (.createSubscription .small)).2 = .ok "" := by simp only [step_eq]; decide +kernel

/-- the revised interval is always one the ticker accepts -/
theorem C29_revised_interval_ok (ms : Int) : intervalOf (reviseMs ms) ≠ .subMs := by
  apply C29_interval_ok <;> unfold reviseMs <;> (repeat' split) <;> omega

/-- with a session, CreateSubscription never crashes, whatever interval is requested -/
theorem C29_createsubscription_safe (st : St) (t : Tok) (iv : Interval) (h : (findSession st t).isSome = true) :
    (step st t (.createSubscription iv)).2.isCrash = false := by
  rw [C29_crash_iff]
  cases iv <;> simp [safe, safeBody, effectiveInterval, sessionKnown, h, C29_facts]

/-! ### repaired: the nil-session call sites (were findings C29.createsubscription-nil-session-tick,
    C29.deletesubscriptions-nil-session, C29.createmonitoreditems-nil-session,
    C29.setmonitoringmode-nil-session, C29.deletemonitoreditems-nil-session) -/

/-- A request of the subscription / monitored-item services whose token is not in the session table
    never reaches a handler body: it is answered with a session fault, nothing changes, nothing is
    dereferenced — for every state, id list, subscription id, item count and interval. -/
theorem C29_repaired_nil_session (st : St) (t : Tok) (h : findSession st t = none)
    (iv : Interval) (ids : List Nat) (sub n : Nat) :
    step st t (.createSubscription iv) = (st, .sessionErr) ∧
    step st t (.deleteSubscriptions ids) = (st, .sessionErr) ∧
    step st t (.createMonitoredItems sub n) = (st, .sessionErr) ∧
    step st t (.setMonitoringMode ids) = (st, .sessionErr) ∧
    step st t (.deleteMonitoredItems ids) = (st, .sessionErr) := by
  simp [step_eq, h]

/-- Every subscription has an owning session (`ownersSet`) and no request can create one without: subscriptions with a nil session pointer (the other
    half of the old crashes: an activated session touching such a subscription) are unreachable. -/
theorem C29_owners_invariant (st : St) (t : Tok) (r : Req) (h : ownersSet st = true) :
    ownersSet (step st t r).1 = true := by
  rw [step_eq]
  split
  · exact h
  next hp =>
    unfold ownersSet at *
    apply body_tables (P := fun subs _ => (subs.all fun s => s.owner.isSome) = true) st t r h
    · intro iv id hr
      -- session-checked and not refused: the session exists
      obtain ⟨x, hx⟩ : ∃ x, findSession st t = some x := by
        cases hf : findSession st t <;> simp [hr, hf] at hp ⊢
      rw [hx]; exact putSub_owners _ _ _ h
    · intro _ dels _
      exact List.all_eq_true.mpr fun s hs => List.all_eq_true.mp h s (List.mem_filter.mp hs).1
    · intro _ _ _ _; exact h
    · intro _ _ _; exact h

/-- repaired (the name is that of the former finding C29.deletesubscriptions-nil-session): without a session
    a session fault; with one, unknown and foreign ids are answered per id -/
theorem C29_finding_deletesubscriptions :
    step st2 0 (.deleteSubscriptions [1]) = (st2, .sessionErr) ∧
    (step st2 1 (.deleteSubscriptions [7, 1])).2 = .ok "BadSubscriptionIDInvalid,Good" ∧
    (step st2 2 (.deleteSubscriptions [1])).2 = .ok "BadSessionIDInvalid" := by simp only [step_eq]; decide +kernel

/-- repaired (former finding C29.createmonitoreditems-nil-session): without a session a session fault, on a
    foreign subscription a fault, on an own one the items -/
theorem C29_finding_createmonitoreditems :
    step st2 0 (.createMonitoredItems 1 1) = (st2, .sessionErr) ∧
    (step st2 2 (.createMonitoredItems 1 1)).2 = .fault "BadUnexpectedError" ∧
    (step st2 1 (.createMonitoredItems 1 2)).2 = .ok "Good,Good" := by simp only [step_eq]; decide +kernel

/-- repaired (former findings C29.setmonitoringmode-* / C29.deletemonitoreditems-*, whose names this theorem
    and the next keep): unknown ids and foreign items are answered per id (repaired with C32), a missing
    session is a session fault. -/
theorem C29_finding_setmonitoringmode :
    step st2 0 (.setMonitoringMode [1]) = (st2, .sessionErr) ∧
    (step st2 1 (.setMonitoringMode [9, 1])).2 = .ok "BadMonitoredItemIDInvalid,Good" ∧
    (step st2 2 (.setMonitoringMode [1])).2 = .ok "BadSessionIDInvalid" := by simp only [step_eq]; decide +kernel

theorem C29_finding_deletemonitoreditems :
    step st2 0 (.deleteMonitoredItems [1]) = (st2, .sessionErr) ∧
    step st2 1 (.deleteMonitoredItems [9]) = (st2, .ok "BadMonitoredItemIDInvalid") ∧
    step st2 2 (.deleteMonitoredItems [1]) = (st2, .ok "BadSessionIDInvalid") ∧
    step st2 1 (.deleteMonitoredItems [1]) = ({ st2 with items := [] }, .ok "Good") := by simp only [step_eq]; decide +kernel

/-- Browse with IncludeSubtypes = false no longer reaches a deletion loop (the generated fact says
    the loop is gone): every Browse class is `plain`.  Had the loop stayed, References (31),
    HierarchicalReferences (33) and HasChild (34) would kill the server (C29_browse_table,
    C29_deleteLoop_always_panics) — this was finding C29.browse-suitablereftype-loop. -/
theorem C29_browse_no_loop (rt : Nat) (inc other : Bool) : browseClsOf rt inc other = .plain := by
  simp [browseClsOf, C29_facts]

/-- repaired (was finding C29.browse-datatype-type-assertion): any client may still overwrite the
    DataType attribute of a node with a value of another type (a C31 matter), but Browse treats such a
    value like a missing attribute instead of asserting its type. -/
theorem C29_repaired_browse_datatype :
    step st2 0 (.writeAttr "DataType" .wrongType) = ({ st2 with dataTypeAttr := .wrongType }, .ok "Good") ∧
    (step { st2 with dataTypeAttr := .wrongType } 0 (.browse .plain true)).2 = .ok "Good" ∧
    (step { st2 with dataTypeAttr := .noValue } 0 (.browse .plain true)).2 = .ok "Good" := by simp only [step_eq]; decide +kernel

/-! ### full strength for the handlers: with the repairs in place no request shape of the model
    crashes the server, in any state the services can reach -/

/-- the tables stay well-formed (every subscription owned, every item's subscription present) -/
theorem C29_wf_invariant (st : St) (t : Tok) (r : Req) (h : wf st = true) : wf (step st t r).1 = true := by
  unfold wf at *
  rw [Bool.and_eq_true] at *
  refine ⟨C29_owners_invariant st t r h.1, ?_⟩
  have hex : ∀ it ∈ st.items, ∃ s ∈ st.subs, s.id = it.sub := fun it hit =>
    (findSub_isSome_iff st it.sub).mp (List.all_eq_true.mp h.2 it hit)
  suffices ∀ it ∈ (step st t r).1.items, ∃ s ∈ (step st t r).1.subs, s.id = it.sub from
    List.all_eq_true.mpr fun it hit => (findSub_isSome_iff _ it.sub).mpr (this it hit)
  rw [step_eq]
  split
  · exact hex
  apply body_tables (P := fun subs items => ∀ it ∈ items, ∃ s ∈ subs, s.id = it.sub) st t r hex
  · intro _ _ _ it hit
    exact putSub_exists st.subs _ it.sub (hex it hit)
  · intro _ dels _ it hit
    rw [List.mem_filter] at hit
    obtain ⟨s, hs, hx⟩ := hex it hit.1
    exact ⟨s, List.mem_filter.mpr ⟨hs, by rw [hx]; exact hit.2⟩, hx⟩
  · intro sub n _ hsub it hit
    rcases List.mem_append.mp hit with hit | hit
    · exact hex it hit
    · rw [newItems_sub _ _ _ it hit]; exact (findSub_isSome_iff st sub).mp hsub
  · intro _ p _ it hit
    exact hex it (List.mem_filter.mp hit).1

/-- C29 for the handlers at full strength: in every well-formed state — in particular in every state
    reachable from the freshly started server — no request of any modelled shape, with any token,
    that `hr` admits makes the server process exit. -/
theorem C29_nopanic (st : St) (t : Tok) (r : Req) (hw : wf st = true)
    (hr : ∀ b, r ≠ .browse .loopPanics b) :   -- no Browse has this class any more: C29_browse_no_loop
    (step st t r).2.isCrash = false := by
  rw [C29_crash_iff]
  unfold safe
  cases hp : preempted st t r with
  | true => rfl
  | false =>
    simp only [Bool.false_or, Bool.not_eq_false']
    have ho : ownersSet st = true := by
      simp only [wf, Bool.and_eq_true] at hw
      exact hw.1
    cases r with
    | browse c b =>
      cases c with
      | plain => simp [safeBody, C29_facts]
      | loopPanics => exact absurd rfl (hr b)
    | createSubscription iv =>
      cases iv <;> simp [safeBody, effectiveInterval, C29_facts, sessionKnown_of_not_preempted hp rfl]
    | deleteSubscriptions ids =>
      exact List.all_eq_true.mpr fun id _ => subSafe_of_ownersSet st t ho (sessionKnown_of_not_preempted hp rfl) id
    | createMonitoredItems sub n =>
      exact subSafe_of_ownersSet st t ho (sessionKnown_of_not_preempted hp rfl) sub
    | setMonitoringMode ids =>
      simp only [safeBody, C29_facts]
      exact List.all_eq_true.mpr fun id _ => itemSafe_of_wf st t hw (sessionKnown_of_not_preempted hp rfl) id
    | deleteMonitoredItems ids =>
      simp only [safeBody, C29_facts]
      exact List.all_eq_true.mpr fun id _ => itemSafe_of_wf st t hw (sessionKnown_of_not_preempted hp rfl) id
    | activateSession s ok => simp only [safeBody]; split <;> simp [C29_facts]
    | _ => simp [safeBody, C29_facts]

/-- From a well-formed state no request sequence makes the server process exit; the freshly started server
    (empty tables) is such a state: `C29_initial_wf`. -/
theorem C29_nopanic_sequences (st : St) (l : List (Tok × Req)) (hw : wf st = true)
    (hr : ∀ x ∈ l, ∀ b, x.2 ≠ .browse .loopPanics b) :
    (runSteps st l).2.isCrash = false :=
  runSteps_isCrash (P := fun st => wf st = true)
    (fun x hx st' hw' => ⟨C29_nopanic st' x.1 x.2 hw' (hr x hx), C29_wf_invariant st' x.1 x.2 hw'⟩) hw

theorem C29_initial_wf : wf {} = true := by decide

/-- Raw frames of any declared size, straight after the handshake or on an open channel, cost at most
    their own connection: `Receive` still reads into a slice with the whole receive buffer behind it
    (regenerated fact; an exact-size allocation would turn 8..11-byte frames into a panic in readChunk). -/
theorem C29_raw_frame_safe (size : Nat) : rawFrameOutcome size = .noResponse := by
  simp [rawFrameOutcome, C29_facts]

/-! ### hang: one client that does not read -/

/-- clients that read their responses are all served, whatever the order -/
theorem C29_readers_served (cap used : Nat) (jobs : List Job) (h : ∀ j ∈ jobs, j.fromAttacker = false) :
    dispatch cap used jobs = jobs.map fun _ => true := by
  induction jobs generalizing used with
  | nil => rfl
  | cons j rest ih =>
    obtain ⟨hj, hrest⟩ := List.forall_mem_cons.mp h
    rw [dispatch, if_neg (by simp [hj]), ih used hrest, List.map_cons]

/-- Whatever the socket buffers hold (`cap`): after `cap + 1` one-byte responses owed to a client that
    does not read, the dispatcher is blocked and a request of ANOTHER client is never answered. -/
theorem C29_finding_nonreading_hang (cap : Nat) :
    (dispatch cap 0 (List.replicate (cap + 1) ⟨true, 1⟩ ++ [⟨false, 1⟩])).getLast? = some false := by
  rw [List.replicate_succ', List.append_assoc, dispatch_fill cap 0 cap _ (by omega)]
  simp [dispatch, C29_facts, Nat.not_succ_le_self]

/-- A signed chunk of any length is at worst an error on its own channel: the length is checked
    before the signature is sliced off (repaired together with C09; it used to be finding
    C29.uasc-short-signed-chunk: 16..31 byte chunks killed the server). -/
theorem C29_signed_chunk_safe (chunkLen sigLen : Nat) : signedChunkOutcome chunkLen sigLen = .noResponse := by
  simp [signedChunkOutcome, C29_facts]

/-! ### hang: value changes of a node monitored by a stalled subscription -/

open Opcua.Notify in
/-- source facts: ChangeNotification sends on the 100-entry NotifyChannel with a plain send under its
    mutex, and SetAttribute calls it on the dispatcher goroutine -/
theorem C29_notify_facts :
    notifySendUnderLock = true ∧ setAttributeNotifiesInline = true ∧ notifyChanCap = 100 := by decide

open Opcua.Notify in
/-- As long as the channel has room the writes are answered, whatever the subscription goroutine does … -/
theorem C29_notify_fill (s : NState) (k : Nat) (hb : s.blocked = false) (hr : s.registered = true)
    (hk : s.queued + k ≤ notifyChanCap) :
    runN s (List.replicate k .write) = ({ s with queued := s.queued + k }, List.replicate k true) := by
  induction k generalizing s with
  | zero => rfl
  | succ k ih =>
    rw [List.replicate_succ, runN, stepN_write s hb hr, if_pos (by omega)]
    simp only []      -- reduces the `let (s', a) := …` of `runN` on the pair
    rw [ih { s with queued := s.queued + 1 } hb hr (by show s.queued + 1 + k ≤ _; omega)]
    simp only [Nat.add_assoc, Nat.add_comm 1 k, List.replicate_succ]

open Opcua.Notify in
/-- … and the first write that finds it full blocks the dispatcher, the mutex held. -/
theorem C29_notify_blocks (s : NState) (hb : s.blocked = false) (hr : s.registered = true)
    (hq : s.queued = notifyChanCap) : stepN s .write = ({ s with blocked := true }, false) := by
  rw [stepN_write s hb hr, if_neg (by omega)]

open Opcua.Notify in
/-- Permanence: once the dispatcher is blocked and the subscription goroutine is not receiving (stalled
    in a send to a connection that is not read, or already gone), NO sequence of events — further
    requests, closing the stalled connection, anything — ever unblocks it, and no request of any client
    is answered again: the goroutine's own clean-up needs the mutex the dispatcher holds. -/
theorem C29_finding_notify_permanent (s : NState) (h : stuck s = true) (l : List Ev) :
    stuck (runN s l).1 = true ∧
    (runN s (l ++ [.request])).2.getLast? = some false ∧ (runN s (l ++ [.write])).2.getLast? = some false := by
  have hs := stuck_run s l h
  have hu := stuck_unanswered (runN s l).1 hs
  refine ⟨hs, ?_, ?_⟩ <;> simp [runN_append, runN, hu.1, hu.2]

open Opcua.Notify in
/-- a receiving goroutine resolves the situation: the pending send completes -/
theorem C29_notify_drain_unblocks (s : NState) (hc : s.consumer = .running) (hb : s.blocked = true) :
    (stepN s .drain).1.blocked = false := by
  simp [stepN, hc, hb]

open Opcua.Notify in
/-- the whole attack from the freshly created subscription: the goroutine stalls on its unread
    connection, 100 value changes are queued, the 101st blocks the dispatcher; closing the stalled
    connection afterwards does not help; a request of another client is never answered -/
theorem C29_finding_notify_hang :
    (runN {} ([.stall] ++ List.replicate 100 .write ++ [.write, .connClosed, .request])).2.getLast? = some false ∧
    stuck (runN {} ([.stall] ++ List.replicate 100 .write ++ [.write, .connClosed])).1 = true ∧
    -- closing the connection BEFORE the channel is full lets the clean-up run: everybody is served
    (runN {} ([.stall] ++ List.replicate 100 .write ++ [.connClosed, .write, .request])).2.getLast? = some true := by
  decide +kernel

/-! ### non-vacuity -/

example : safe st2 1 (.deleteSubscriptions [1, 7]) = true ∧ safe st2 0 .read = true ∧ safe st2 0 (.setMonitoringMode [1]) = true := by decide +kernel
example : wf st2 = true ∧ (runSteps st2 [(0, .read), (0, .createSession 3 true .nonRsa), (1, .setMonitoringMode [9, 1])]).2 = .ok "BadMonitoredItemIDInvalid,Good" := by decide +kernel

end Opcua.Props.C29
