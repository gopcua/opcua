import OpcuaModel.Model.Asym
import OpcuaModel.Gen.Asym
import OpcuaModel.Model.AsymLemmas
import OpcuaModel.Model.RsaRef
/-
  C15 — asymmetric crypto is correct for all lengths and enforces key size limits.

  `Gen.asymRows` is regenerated from `uapolicy/policy*.go`, `crypto_rsaoaep.go`
  and `crypto_pkcs1v15.go` on every run (padding constants, the guards of the
  constructors as a Bool function, the schemes). `Asym.encrypt/decrypt` are the
  hand model of the block loops (tied by the C15 correspondence run), `Spec.*`
  the Part 7 / RFC 8017 numbers.
-/
namespace Opcua.Props.C15
open Opcua Opcua.Asym

/-- Block loops, any abstract RSA, any randomness, EVERY plaintext length
    (including 0 and exact multiples of the block capacity): if the block size
    `k − pad` the loop uses is positive and within the capacity of the
    primitive, `Encrypt` succeeds, produces exactly `⌈|p| / (k − pad)⌉` blocks
    of `k` bytes, and `Decrypt` returns the plaintext. -/
theorem C15_blocks (R : BlockRSA) (pad : Int) (hpos : 0 < (R.k : Int) - pad)
    (hcap : (R.k : Int) - pad ≤ R.cap) (rnd : Nat → Nat) (p : Bytes) :
    ∃ c, encrypt true R rnd pad p = .ok c ∧
      c.length = ceilDiv p.length ((R.k : Int) - pad).toNat * R.k ∧
      decrypt true R c = .ok p := by
  have hk : 0 < R.k := BlockRSA.k_pos R (by omega)
  obtain ⟨c, hc, hlen, hdec⟩ := encBlocks_spec R rnd ((R.k : Int) - pad).toNat (by omega) (by omega) hk 0 p
  exact ⟨c, by rw [encrypt_of_pos R rnd pad hpos, hc]; rfl, hlen, by rw [decrypt_of_pos R hk, hdec]; rfl⟩

/-- Without the key the functions report an error (`PublicKey == nil` /
    `PrivateKey == nil`), they do not panic. -/
theorem C15_nokey (R : BlockRSA) (rnd : Nat → Nat) (pad : Int) (p : Bytes) :
    encrypt false R rnd pad p = .err ∧ decrypt false R p = .err := by
  simp [encrypt, decrypt]

/-- For every policy of the `policies` map and every key (modulus of `bits`
    bits, `k = ⌈bits/8⌉` bytes) its constructor accepts: the block size `Encrypt`
    uses is positive (the loop makes progress: no panic, no endless loop), is
    within what the RSA scheme can take (RFC 8017 — so
    `rsa.EncryptOAEP/EncryptPKCS1v15` never refuse a block), and it is the
    `PlaintextBlockSize()` the channel pads to.  (`accept false 0 true bits`: the
    encryption algorithm is built from the remote public key alone.) -/
theorem C15_capacity (row : AsymRow) (hr : row ∈ Gen.asymRows) (hs : row.scheme ≠ .none) (bits : Int)
    (hacc : row.accept false 0 true bits = true) :
    0 < sizeOfBits bits - row.encPad ∧
    sizeOfBits bits - row.encPad ≤ Spec.capacity row.scheme (sizeOfBits bits) ∧ row.ptPad = row.encPad := by
  rcases rows_range hr with rfl | R
  · exact absurd rfl hs
  · simp [R.accept, keyGuard_iff] at hacc
    have := R.pos
    exact ⟨by unfold sizeOfBits; omega, R.cap _, R.pt⟩

/-- the declared MinPadding constants of the package: each is at least the padding
    of its scheme (never less: a smaller constant would make full blocks too long
    for the primitive).  That a row's `encPad` is one of them is the generator's
    reading of `Encrypt` (Gen/Asym.lean); `C15_capacity` compares each row's own
    `encPad` with its scheme. -/
theorem C15_padding_constants :
    Gen.pKCS1v15MinPadding = 11 ∧ Gen.rSAOAEPMinPaddingSHA1 = 2 * 20 + 2 ∧ 2 * 32 + 2 ≤ Gen.rSAOAEPMinPaddingSHA256 := by
  decide

/-- Every policy uses the asymmetric encryption and signature algorithm that
    Part 7 names for it. -/
theorem C15_schemes (row : AsymRow) (hr : row ∈ Gen.asymRows) :
    Spec.scheme row.name = some row.scheme ∧ Spec.sigScheme row.name = some row.sigScheme := by
  revert row
  decide

/-- The round trip for every policy, every accepted key, every abstract RSA of
    that size with the capacity of the policy's scheme, every plaintext. -/
theorem C15_roundtrip (row : AsymRow) (hr : row ∈ Gen.asymRows) (hs : row.scheme ≠ .none)
    (R : BlockRSA) (bits : Int) (hk : (R.k : Int) = sizeOfBits bits)
    (hR : R.cap = Spec.capacity row.scheme R.k)
    (hacc : row.accept false 0 true bits = true) (rnd : Nat → Nat) (p : Bytes) :
    ∃ c, encrypt true R rnd row.encPad p = .ok c ∧
      c.length = ceilDiv p.length ((R.k : Int) - row.ptPad).toNat * R.k ∧
      decrypt true R c = .ok p := by
  obtain ⟨h1, h2, h3⟩ := C15_capacity row hr hs bits hacc
  rw [h3]
  rw [← hk] at h1 h2
  exact C15_blocks R row.encPad h1 (by rw [hR]; exact h2) rnd p

/-- KEY-SIZE LIMITS, without a guard (after the fix that compares `N.BitLen()`):
    for every bit length of the local and of the remote key, independently, the
    constructor accepts exactly the Part 7 range `lo ≤ bits ≤ hi`; and the
    declared byte constants are that range divided by 8. -/
theorem C15_limits (row : AsymRow) (hr : row ∈ Gen.asymRows) (lo hi : Int)
    (hspec : Spec.keyBits row.name = some (lo, hi)) (hl : Bool) (l : Int) (hrm : Bool) (r : Int) :
    (row.accept hl l hrm r = true ↔
      (hl = true → lo ≤ l ∧ l ≤ hi) ∧ (hrm = true → lo ≤ r ∧ r ≤ hi)) ∧
    8 * row.minKeyBytes = lo ∧ 8 * row.maxKeyBytes = hi := by
  rcases rows_range hr with rfl | R
  · cases hspec
  · rw [R.spec] at hspec
    cases hspec
    exact ⟨by simp only [R.accept, Bool.and_eq_true, keyGuard_iff], rfl, rfl⟩

/-- the constructor applied to a key of `bits` bits on both sides -/
def acceptsBits (row : AsymRow) (bits : Int) : Bool :=
  row.accept true bits true bits

/-- corollary for one key size on both sides, for every bit length (whole bytes or not) -/
theorem C15_limits_both (row : AsymRow) (hr : row ∈ Gen.asymRows) (lo hi : Int)
    (hspec : Spec.keyBits row.name = some (lo, hi)) (bits : Int) :
    acceptsBits row bits = true ↔ lo ≤ bits ∧ bits ≤ hi := by
  have h := (C15_limits row hr lo hi hspec true bits true bits).1
  rw [acceptsBits, h]
  simp

/-- was C15.min-key-bits-rounded-up: keys of 2041…2047 bits (1017…1023 for the
    1024-bit policies) are now refused -/
theorem C15_fixed_min_key_bits :
    acceptsBits Gen.asymBasic256Sha256 2041 = false ∧ acceptsBits Gen.asymBasic256Sha256 2047 = false ∧
    acceptsBits Gen.asymBasic128Rsa15 1017 = false ∧ acceptsBits Gen.asymBasic256Sha256 2048 = true := by
  decide

/-- Policy None takes any (or no) keys. -/
theorem C15_none_accepts (hl : Bool) (l : Int) (hrm : Bool) (r : Int) :
    Gen.asymNone.accept hl l hrm r = true := by
  simp [Gen.asymNone]

/-! ### Signatures — conditional on an idealised scheme (cryptographic hypothesis) -/

/-- Idealisation of RSASSA (PKCS#1 v1.5 or PSS): verification accepts exactly
    what the private key of the same pair produced for the same message.
    This is an ASSUMPTION about `crypto/rsa`, not something Lean proves. -/
structure IdealSig where
  sign : (key : Nat) → (rnd : Nat) → Bytes → Bytes
  verify : (key : Nat) → Bytes → Bytes → Bool
  complete : ∀ k r m, verify k m (sign k r m) = true
  sound : ∀ k m s, verify k m s = true → ∃ r, s = sign k r m
  sep : ∀ k k' r r' m m', sign k r m = sign k' r' m' → k = k' ∧ m = m'

/-- `PKCS1v15.Verify` / `RSAPSS.Verify`: hash the whole message, verify; nil key → error -/
def goVerify (S : IdealSig) (hasKey : Bool) (key : Nat) (msg sig : Bytes) : Bool :=
  hasKey && S.verify key msg sig

/-- PARTIAL (hypothesis `IdealSig`): a signature verifies only for the signed
    bytes and the right key. -/
theorem C15_sig_partial (S : IdealSig) (k k' r : Nat) (m m' : Bytes) :
    goVerify S true k' m' (S.sign k r m) = true ↔ k' = k ∧ m' = m := by
  simp only [goVerify, Bool.true_and]
  constructor
  · intro h
    obtain ⟨r', hr'⟩ := S.sound _ _ _ h
    obtain ⟨h1, h2⟩ := S.sep _ _ _ _ _ _ hr'
    exact ⟨h1.symm, h2.symm⟩
  · rintro ⟨rfl, rfl⟩
    exact S.complete _ _ _

/-! ### an executable reference for RSASSA-PKCS1-v1_5 verification
     (`Model/RsaRef.lean`; the driver verifies the signatures the real code produces) -/
section RsaRef
open Opcua.RsaRef Opcua.CryptoRef

/-- OS2IP ∘ I2OSP is reduction mod 256^k … -/
theorem C15_os2ip_i2osp (x k : Nat) : os2ip (i2osp x k) = x % 256 ^ k :=
  os2ip_i2osp x k

/-- … hence the identity for every integer that fits `k` octets (RFC 8017 §4.1/4.2) -/
theorem C15_os2ip_i2osp_of_lt (x k : Nat) (h : x < 256 ^ k) : os2ip (i2osp x k) = x := by
  rw [C15_os2ip_i2osp, Nat.mod_eq_of_lt h]

/-- I2OSP ∘ OS2IP is the identity on octet strings (with their own length) -/
theorem C15_i2osp_os2ip (b : Bytes) : i2osp (os2ip b) b.length = b :=
  i2osp_os2ip b

/-- OS2IP of `k` octets is below 256^k, and I2OSP yields exactly `k` octets -/
theorem C15_os2ip_bound (b : Bytes) : os2ip b < 256 ^ b.length ∧ ∀ x k, (i2osp x k).length = k := by
  refine ⟨?_, i2osp_length⟩
  have h := C15_os2ip_i2osp (os2ip b) b.length
  rw [C15_i2osp_os2ip] at h
  rw [h]
  exact Nat.mod_lt _ (Nat.pow_pos (by decide))

/-- square-and-multiply computes the modular power -/
theorem C15_modPow_correct (b e n : Nat) : modPow b e n = b ^ e % n :=
  modPow_eq b e n

/-- EMSA-PKCS1-v1_5: the encoded message has exactly `k` octets and the shape
    `00 01 FF…FF 00 ‖ DigestInfo prefix ‖ digest` with at least 8 padding octets;
    it is refused exactly when `k < |T| + 11` -/
theorem C15_emsa_structure (h : HashAlg) (d : Bytes) (k : Nat) :
    (emsaOfDigest h d k = none ↔ k < (digestInfoPrefix h ++ d).length + 11) ∧
    ∀ em, emsaOfDigest h d k = some em →
      em.length = k ∧
      ∃ ps, 8 ≤ ps ∧ ps + (digestInfoPrefix h ++ d).length + 3 = k ∧
        em = 0x00 :: 0x01 :: (List.replicate ps 0xff ++ 0x00 :: (digestInfoPrefix h ++ d)) := by
  unfold emsaOfDigest
  by_cases hk : k < (digestInfoPrefix h ++ d).length + 11
  · rw [if_pos hk]
    exact ⟨⟨fun _ => hk, fun _ => rfl⟩, fun em hem => by cases hem⟩
  · simp only [hk, if_false]
    refine ⟨by simp, ?_⟩
    intro em hem
    simp only [Option.some.injEq] at hem
    subst hem
    refine ⟨?_, k - (digestInfoPrefix h ++ d).length - 3, by omega, by omega, rfl⟩
    simp only [List.length_cons, List.length_append, List.length_replicate] at hk ⊢
    omega

/-- the DigestInfo prefixes end with the digest length of their hash -/
theorem C15_digestinfo_prefixes :
    (digestInfoPrefix .sha1).length = 15 ∧ (digestInfoPrefix .sha256).length = 19 ∧
    (digestInfoPrefix .sha1).getLast? = some (UInt8.ofNat HashAlg.sha1.outLen) ∧
    (digestInfoPrefix .sha256).getLast? = some (UInt8.ofNat HashAlg.sha256.outLen) := by
  decide

/-- the executable verifier is RFC 8017 §8.2.2 in terms of the mathematical
    power: right length, representative below the modulus, and
    `I2OSP(s^e mod n, k) = EMSA-PKCS1-v1_5(msg, k)` -/
theorem C15_rsaVerify_spec (n e : Nat) (h : HashAlg) (msg sig : Bytes) :
    rsaVerifyPkcs1v15 n e h msg sig = true ↔
      sig.length = byteLen n ∧ os2ip sig < n ∧
      ∃ em, emsa h msg (byteLen n) = some em ∧ i2osp (os2ip sig ^ e % n) (byteLen n) = em := by
  unfold rsaVerifyPkcs1v15
  by_cases hl : sig.length = byteLen n
  · by_cases hn : os2ip sig ≥ n
    · have : ¬ os2ip sig < n := by omega
      simp [hl, hn, this]
    · have hlt : os2ip sig < n := by omega
      cases hem : emsa h msg (byteLen n) with
      | none => simp [hl, hn, hem]
      | some em => simp [hl, hn, hlt, hem, C15_modPow_correct]
  · simp [hl]

/-- non-vacuity of the arithmetic: a textbook value -/
example : modPow 4 13 497 = 445 ∧ os2ip [0x01, 0x00, 0x01] = 65537 ∧ i2osp 65537 4 = [0, 1, 0, 1] ∧ byteLen 65537 = 3 := by
  -- `modPow` recurses on a well-founded measure: only the kernel's evaluator runs it (`decide`, `rfl` get stuck)
  refine ⟨by decide +kernel, by decide, by decide, by decide⟩

end RsaRef

/-! ### Non-vacuity -/

/-- the hypotheses of `C15_blocks` are satisfiable: a 256-byte toy RSA with
    the OAEP-SHA1 capacity; 3 full blocks + 1 byte → 4 blocks (an instance of the theorem: `encrypt` is not run) -/
example : ∃ c, encrypt true (toy 256 214 (by decide) (by decide)) (fun _ => 7) 42 (List.replicate 643 1) = .ok c ∧
    c.length = 4 * 256 ∧ decrypt true (toy 256 214 (by decide) (by decide)) c = .ok (List.replicate 643 1) := by
  have h := C15_blocks (toy 256 214 (by decide) (by decide)) 42 (by decide) (by decide) (fun _ => 7) (List.replicate 643 1)
  obtain ⟨c, h1, h2, h3⟩ := h
  refine ⟨c, h1, ?_, h3⟩
  rw [h2, List.length_replicate]
  decide

/-- the raw `RSAOAEP{Hash: SHA256}` with a 1024-bit key (not reachable through
    `Asymmetric`, whose limits exclude it) would panic: block size 128 − 130 < 0 -/
example : encrypt true (toy 128 62 (by decide) (by decide)) (fun _ => 0) Gen.rSAOAEPMinPaddingSHA256 [1] = .panic := by
  decide

end Opcua.Props.C15
