import OpcuaModel.Model.ClientResp
import OpcuaModel.Gen.ClientSites
/-
  C21 — client calls never panic on any well-formed server response.

  `outcome op shape` is the model of every client operation as a function of
  the shape of the server's answers (Model/ClientResp.lean); `Gen.clientSites`
  is the list of index / slice / unchecked-assertion sites of the anchored
  files regenerated from the source; `auditedSites` classifies each of them.
  (The 13 defects that were found are repaired in /repo; the model mirrors the
  repaired code and the property is proved for all operations.)
-/
namespace Opcua.Props.C21
open Opcua.ClientResp

/-- TIE: the sites in the working tree are exactly the audited ones (same
    functions, same operands, same multiplicity).  A new index expression or
    unchecked assertion in the anchored files breaks this theorem. -/
theorem C21_sites : Gen.clientSites = auditedSites.map (·.1) := by
  rfl

/-- every audited site is guarded: none is marked as panicking -/
theorem C21_audit_all_safe : auditAllSafe = true := by
  decide +kernel

/-- C21, FULL STRENGTH: for every client operation (all plain calls, Call, the
    node getters, NamespaceArray, Stats, References/browseNext, Translate,
    Subscribe, Cancel, Monitor, ModifyMonitoredItems, the reconnect loop's
    recreate / transfer steps and the publish loop) and EVERY answer shape
    (any kind, unbounded array lengths and chains, any Variant class) the
    outcome is a value or an error, never a panic. -/
theorem C21_nopanic (op : Op) (s : Shape) : outcome op s ≠ .panic := by
  cases op with
  | references =>
    simp only [outcome, references]
    repeat' split
    · nofun
    · nofun
    · exact browseLoop_ne_panic' s.chain
  | _ =>
    -- with the loops in closed form no branch of the others is a panic
    simp only [outcome, getter, assertScalar, variantInt, translate, subscribe, subDelete,
      subMonitor_eq, subModifyItems_eq, recreateItems_eq, transferOnReconnect_eq, publish_eq]
    repeat' split
    all_goals nofun

/-- the shapes that made the unrepaired code panic now give an error (the
    reconnect loop logs and drops it, NodeClass of an array is 0: `value`) -/
theorem C21_old_witnesses_handled :
    oldWitnesses.map (fun p => outcome p.1 p.2) =
      [.error, .error, .error, .value, .value, .error, .error, .error, .error, .error, .error, .error, .value] := by
  decide

/-- a malformed answer is never mistaken for a good one: fewer or more results
    than request items give an error in Monitor / ModifyMonitoredItems -/
theorem C21_length_mismatch_is_error (s : Shape) (hk : s.kind = .ok) (hi : s.idsKnown = true) (h : s.nRes ≠ s.nReq) :
    outcome .subMonitor s = .error ∧ outcome .subModifyItems s = .error := by
  simp [outcome, subMonitor, subModifyItems, hk, hi, h]

/-- a conforming answer (see `conforming`) to Monitor is accepted.  Monitor only: `conforming`
    asks neither for a Good first result (Cancel and the getters return its status) nor for
    BrowseNext answers of kind `ok` (References returns their error) -/
theorem C21_conforming_accepted (s : Shape) (hm : conforming .subMonitor s) : outcome .subMonitor s = .value := by
  rcases hm with ⟨hk, hn, _, _, _, _, _⟩
  simp [outcome, subMonitor_eq, hk, hn]

/-- non-vacuity: conforming shapes exist and give values; errors are errors -/
example : outcome .subMonitor { Shape.good with nReq := 3, results := [true, false, true] } = .value ∧
    outcome .browseName { Shape.good with val := ⟨true, .qname, false, 0⟩ } = .value ∧
    outcome .browseName Shape.good = .error ∧
    outcome .references { Shape.good with chain := [(.ok, 2), (.ok, 1)] } = .value := by
  decide

end Opcua.Props.C21
