import OpcuaModel.Model.SrvSecLemmas
/-
  C30 — the server only opens channels with security settings it enabled, and
  advertises exactly those.

  `serverOpn` is the model of the server's treatment of the first
  OpenSecureChannel request of a connection (readChunk + handleOpenSecureChannelRequest
  as written), `initEndpoints` / `enabledOf` the model of the configuration side.
  The "advertised = enabled" half holds (C30_endpoints*, C30_enable*); the "only
  enabled pairs open a channel" half is FALSE on the unchanged code:
  acceptance never looks at the enabled set (C30_accept_ignores_enabled, pinned
  in the source by C30_facts).  The set of violating inputs is characterised
  exactly (C30_violation_iff), split into six classes (C30_classify_cover): five with
  one machine-checked counterexample each (C30_finding_*), one that is never opened; the property is
  proved on the complement (C30_only_enabled_partial).
-/
namespace Opcua.Props.C30
open Opcua Opcua.SrvSec

/-! ### source facts the model rests on (regenerated on every run) -/

/-- Only `EnableSecurity` and `initEndpoints` ever mention `enabledSec`; the
    channel's policy and mode are assigned from the client's chunk / request
    and nowhere else; the OPN path does not consult an acceptance predicate
    (`cfg.AcceptSecurity`: none) and `server.New` adds no default pair; every
    server-side channel starts as None / None. -/
theorem C30_facts :
    Gen.SrvSec.enabledSecReaders = ["server/server.go:initEndpoints", "server/server_config.go:EnableSecurity"] ∧
    Gen.SrvSec.chanCfgWrites =
      [("handleOpenSecureChannelRequest", "SecurityMode"), ("readChunk", "SecurityPolicyURI")] ∧
    Gen.SrvSec.opnChecksEnabled = false ∧ Gen.SrvSec.defaultsToNone = false ∧
    Gen.SrvSec.defaultChannelPolicy = "ua.SecurityPolicyURINone" ∧
    Gen.SrvSec.defaultChannelMode = "ua.MessageSecurityModeNone" ∧
    Gen.SrvSec.supportedPolicies.contains policyNone = true :=
  -- literal against literal is `rfl`; only the last conjunct computes (deciding a string equation is dear)
  ⟨rfl, rfl, rfl, rfl, rfl, rfl, by decide +kernel⟩

/-! ### configuration: EnableSecurity -/

/-- The configured set is exactly the set of `EnableSecurity` calls that name a
    supported policy (unsupported ones are dropped), without duplicates. -/
theorem C30_enable (calls : List (String × Nat)) :
    (enabledOf calls).Nodup ∧
    ∀ s, s ∈ enabledOf calls ↔ ∃ c ∈ calls, supported c.1 = true ∧ s = ⟨c.1, c.2⟩ := by
  obtain ⟨hn, hm⟩ := foldl_enable calls [] List.nodup_nil
  exact ⟨hn, fun s => (hm s).trans (by simp)⟩

/-! ### advertised endpoints -/

/-- An endpoint is advertised iff its pair is enabled and its URL is one of the
    server's URLs: advertised = enabled pairs × urls. -/
theorem C30_endpoints (cfg : SrvCfg) (ep : Endpoint) :
    ep ∈ initEndpoints cfg ↔ ep.sec ∈ cfg.enabled ∧ ep.url ∈ cfg.urls := by
  unfold initEndpoints
  simp only [List.mem_flatMap, List.mem_map]
  constructor
  · rintro ⟨s, hs, u, hu, rfl⟩; exact ⟨hs, hu⟩
  · rintro ⟨hs, hu⟩; exact ⟨ep.sec, hs, ep.url, hu, by cases ep; rfl⟩

/-- nothing is advertised twice, one endpoint per (pair, url) -/
theorem C30_endpoints_count (cfg : SrvCfg) :
    (initEndpoints cfg).length = cfg.enabled.length * cfg.urls.length := by
  unfold initEndpoints
  induction cfg.enabled with
  | nil => simp
  | cons s r ih => simp [List.flatMap_cons, ih, Nat.add_mul, Nat.add_comm]

/-- The set of advertised pairs is exactly the enabled set (server has a URL). -/
theorem C30_endpoints_pairs (cfg : SrvCfg) (h : cfg.urls ≠ []) (s : Sec) :
    (∃ ep ∈ initEndpoints cfg, ep.sec = s) ↔ s ∈ cfg.enabled := by
  constructor
  · rintro ⟨ep, hep, rfl⟩; exact ((C30_endpoints cfg ep).mp hep).1
  · intro hs
    obtain ⟨u, hu⟩ := List.exists_mem_of_ne_nil _ h
    exact ⟨⟨u, s⟩, (C30_endpoints cfg ⟨u, s⟩).mpr ⟨hs, hu⟩, rfl⟩

/-- `GetEndpoints` with one of the server's URLs returns every enabled pair and
    only enabled pairs. -/
theorem C30_getEndpoints (cfg : SrvCfg) (u : String) (hu : u ∈ cfg.urls) (s : Sec) :
    (∃ ep ∈ getEndpoints cfg u, ep.sec = s) ↔ s ∈ cfg.enabled := by
  unfold getEndpoints
  constructor
  · rintro ⟨ep, hep, rfl⟩
    exact ((C30_endpoints cfg ep).mp (List.mem_filter.mp hep).1).1
  · intro hs
    exact ⟨⟨u, s⟩, List.mem_filter.mpr ⟨(C30_endpoints cfg ⟨u, s⟩).mpr ⟨hs, hu⟩, by simp⟩, rfl⟩

/-! ### OpenSecureChannel acceptance -/

theorem C30_accept_ignores_enabled (srv srv' : SrvCfg) (o : Opn) :
    serverOpn srv o = serverOpn srv' o := rfl

/-- Closed form of acceptance: the step-by-step model accepts exactly the
    requests satisfying `acceptable`, and the channel gets the request's pair. -/
theorem C30_accept_iff (srv : SrvCfg) (o : Opn) (s : Sec) :
    serverOpn srv o = .accept s ↔ acceptable srv o = true ∧ s = ⟨o.policy, o.mode⟩ := by
  rw [serverOpn_eq]
  by_cases ha : acceptable srv o = true
  · simp only [ha, if_true, true_and, Outcome.accept.injEq]
    exact eq_comm
  · simp [ha]

/-- What an accepted channel does guarantee: a supported policy; policy None only
    with mode None; a secure policy only for a sender that signed with the key of
    an acceptable RSA certificate and encrypted to the server. -/
theorem C30_guarantees (srv : SrvCfg) (o : Opn) (s : Sec) (h : serverOpn srv o = .accept s) :
    supported s.policy = true ∧
    (s.policy = policyNone → s.mode = modeNone) ∧
    (s.policy ≠ policyNone → o.cert = .good ∧ o.body = .secured) := by
  obtain ⟨ha, rfl⟩ := (C30_accept_iff srv o s).mp h
  unfold acceptable at ha
  by_cases hp : o.policy = policyNone <;> simp_all

theorem C30_unsupported_refused (srv : SrvCfg) (o : Opn) (h : supported o.policy = false) :
    serverOpn srv o = .reject := by
  rw [serverOpn_eq, if_neg]
  simp [acceptable, h]

/-- C30 on the part of the input space where it holds: if the requested pair is
    enabled, or the request is not acceptable, an opened channel has an enabled pair. -/
theorem C30_only_enabled_partial (srv : SrvCfg) (o : Opn) (s : Sec)
    (guard : (⟨o.policy, o.mode⟩ : Sec) ∈ srv.enabled ∨ acceptable srv o = false)
    (h : serverOpn srv o = .accept s) : s ∈ srv.enabled := by
  obtain ⟨ha, rfl⟩ := (C30_accept_iff srv o s).mp h
  rcases guard with g | g
  · exact g
  · simp [ha] at g

/-- Exactly the acceptable requests for a pair that is not enabled violate C30. -/
theorem C30_violation_iff (srv : SrvCfg) (o : Opn) :
    (∃ s, serverOpn srv o = .accept s ∧ s ∉ srv.enabled) ↔
      acceptable srv o = true ∧ (⟨o.policy, o.mode⟩ : Sec) ∉ srv.enabled := by
  constructor
  · rintro ⟨s, h, hn⟩
    obtain ⟨ha, rfl⟩ := (C30_accept_iff srv o s).mp h
    exact ⟨ha, hn⟩
  · rintro ⟨ha, hn⟩
    exact ⟨_, (C30_accept_iff srv o _).mpr ⟨ha, rfl⟩, hn⟩

/-- The finding signatures partition the violations: a pair that is not enabled
    falls into exactly one of six classes (five are recorded findings; the sixth, policy None with a
    signing mode, is never opened: C30_guarantees), an enabled one into none. -/
theorem C30_classify_cover (srv : SrvCfg) (s : Sec) :
    (classify srv s = "enabled" ↔ s ∈ srv.enabled) ∧
    (s ∉ srv.enabled → classify srv s ∈
      ["C30.accept-none-not-enabled", "C30.accept-none-policy-with-mode", "C30.accept-secure-policy-mode-none",
       "C30.accept-invalid-mode", "C30.accept-mode-not-enabled", "C30.accept-policy-not-enabled"]) := by
  unfold classify
  by_cases he : s ∈ srv.enabled
  · simp [he]
  · simp only [List.contains_iff_mem, he, if_false, not_false_eq_true, forall_const, iff_false]
    -- with the tests pushed to the leaves, every branch is one of the six signatures and none is "enabled"
    generalize hL : (_ :: _ : List String) = L
    simp only [apply_ite (fun x => ¬x = "enabled" ∧ x ∈ L)]
    subst hL
    simp

/-! ### the full-strength statement is false: machine-checked counterexamples -/

/-- a server that enabled only Basic256Sha256 / SignAndEncrypt -/
def srvB256SE : SrvCfg := ⟨[⟨"Basic256Sha256", modeSignAndEncrypt⟩], ["opc.tcp://localhost:4840"]⟩
/-- a server that enabled only Basic256Sha256 / Sign -/
def srvB256S : SrvCfg := ⟨[⟨"Basic256Sha256", modeSign⟩], ["opc.tcp://localhost:4840"]⟩

def opnNone : Opn := { policy := "None", cert := .absent, body := .plain, mode := modeNone }
def opnSecure (p : String) (m : Nat) : Opn := { policy := p, cert := .good, body := .secured, mode := m }

/-- finding C30.accept-none-not-enabled: the unsecured pair is accepted by a
    server that enabled only Basic256Sha256 / SignAndEncrypt (and advertises only that). -/
theorem C30_finding_none_not_enabled :
    serverOpn srvB256SE opnNone = .accept ⟨"None", modeNone⟩ ∧
    (⟨"None", modeNone⟩ : Sec) ∉ srvB256SE.enabled ∧
    (initEndpoints srvB256SE).map (·.sec) = [⟨"Basic256Sha256", modeSignAndEncrypt⟩] ∧
    classify srvB256SE ⟨"None", modeNone⟩ = "C30.accept-none-not-enabled" := by decide +kernel

/-- finding C30.accept-policy-not-enabled: the deprecated Basic128Rsa15 is accepted
    although only Basic256Sha256 is enabled. -/
theorem C30_finding_policy_not_enabled :
    serverOpn srvB256SE (opnSecure "Basic128Rsa15" modeSign) = .accept ⟨"Basic128Rsa15", modeSign⟩ ∧
    (⟨"Basic128Rsa15", modeSign⟩ : Sec) ∉ srvB256SE.enabled ∧
    classify srvB256SE ⟨"Basic128Rsa15", modeSign⟩ = "C30.accept-policy-not-enabled" := by decide +kernel

/-- finding C30.accept-mode-not-enabled: Sign is accepted where only SignAndEncrypt
    is enabled for the policy (and the other way round). -/
theorem C30_finding_mode_not_enabled :
    serverOpn srvB256SE (opnSecure "Basic256Sha256" modeSign) = .accept ⟨"Basic256Sha256", modeSign⟩ ∧
    (⟨"Basic256Sha256", modeSign⟩ : Sec) ∉ srvB256SE.enabled ∧
    classify srvB256SE ⟨"Basic256Sha256", modeSign⟩ = "C30.accept-mode-not-enabled" ∧
    serverOpn srvB256S (opnSecure "Basic256Sha256" modeSignAndEncrypt) = .accept ⟨"Basic256Sha256", modeSignAndEncrypt⟩ ∧
    classify srvB256S ⟨"Basic256Sha256", modeSignAndEncrypt⟩ = "C30.accept-mode-not-enabled" := by decide +kernel

/-- finding C30.accept-secure-policy-mode-none: a properly secured OPN that asks for
    SecurityMode None under a secure policy is accepted; the channel then runs in
    the clear under the name of the secure policy. -/
theorem C30_finding_secure_policy_mode_none :
    serverOpn srvB256SE (opnSecure "Basic256Sha256" modeNone) = .accept ⟨"Basic256Sha256", modeNone⟩ ∧
    validPair ⟨"Basic256Sha256", modeNone⟩ = false ∧
    classify srvB256SE ⟨"Basic256Sha256", modeNone⟩ = "C30.accept-secure-policy-mode-none" := by decide +kernel

/-- finding C30.accept-invalid-mode: SecurityMode values that are not modes at all
    (0 = Invalid, 77) are accepted and stored. -/
theorem C30_finding_invalid_mode :
    serverOpn srvB256SE (opnSecure "Basic256Sha256" 0) = .accept ⟨"Basic256Sha256", 0⟩ ∧
    serverOpn srvB256SE (opnSecure "Basic256Sha256" 77) = .accept ⟨"Basic256Sha256", 77⟩ ∧
    validPair ⟨"Basic256Sha256", 77⟩ = false ∧
    classify srvB256SE ⟨"Basic256Sha256", 77⟩ = "C30.accept-invalid-mode" := by decide +kernel

/-- the property at full strength does not hold for the code as it is -/
theorem C30_only_enabled_false :
    ¬ ∀ (srv : SrvCfg) (o : Opn) (s : Sec), serverOpn srv o = .accept s → s ∈ srv.enabled := by
  intro h
  exact absurd (h srvB256SE opnNone _ C30_finding_none_not_enabled.1) C30_finding_none_not_enabled.2.1

/-! ### renewal: second and later OpenSecureChannel requests on a connection -/

/-- the first request of a connection is the one-element sequence from the fresh configuration -/
theorem C30_seq_first (srv : SrvCfg) (o : Opn) : opnSeq srv (some freshChan) [o] = [serverOpn srv o] := by
  unfold opnSeq opnFrom serverOpn
  cases hr : readChunkOpn srv freshChan o with
  | none => simp [opnSeq]
  | some c => cases hh : handleOpen c o <;> simp [opnSeq, hh]

/-- a later request is treated without looking at the enabled set either -/
theorem C30_renew_ignores_enabled (srv srv' : SrvCfg) (c : ChanCfg) (o : Opn) :
    opnFrom srv c o = opnFrom srv' c o := rfl

/-- Whatever the connection negotiated before: a correctly secured request under any supported secure
    policy, with any mode value, is accepted and REPLACES policy and mode of the channel. -/
theorem C30_renew_secure_accepted (srv : SrvCfg) (c : ChanCfg) (o : Opn)
    (hp : o.policy ≠ policyNone) (hs : supported o.policy = true) (hc : o.cert = .good)
    (hb : o.body = .secured) (hv : o.protoVer = 0) (ht : o.authTok = 0) :
    opnFrom srv c o = some ⟨o.policy, o.mode, .good⟩ := by
  unfold opnFrom readChunkOpn handleOpen
  simp [hp, hs, hc, hb, hv, ht, certUsable]

/-- A request with policy None on a channel whose mode is not None is refused (the server tries to
    verify it with the channel's symmetric keys): no renewal can downgrade a secured channel to None. -/
theorem C30_renew_to_none_refused (srv : SrvCfg) (c : ChanCfg) (o : Opn)
    (hp : o.policy = policyNone) (hm : c.mode ≠ modeNone) : opnFrom srv c o = none := by
  unfold opnFrom readChunkOpn
  simp [hp, hm]

/-- finding C30.renew-switches-security: on a server that enabled only Basic256Sha256 / SignAndEncrypt a
    channel opened with exactly that pair is switched by a renewal request to Sign, or to another
    policy; a None / None channel is upgraded; only the switch to None is refused. -/
theorem C30_finding_renew_switches :
    opnSeq srvB256SE (some freshChan) [opnSecure "Basic256Sha256" 3, opnSecure "Basic256Sha256" 2] =
      [.accept ⟨"Basic256Sha256", 3⟩, .accept ⟨"Basic256Sha256", 2⟩] ∧
    opnSeq srvB256SE (some freshChan) [opnSecure "Basic256Sha256" 3, opnSecure "Aes128_Sha256_RsaOaep" 3] =
      [.accept ⟨"Basic256Sha256", 3⟩, .accept ⟨"Aes128_Sha256_RsaOaep", 3⟩] ∧
    opnSeq srvB256SE (some freshChan) [opnSecure "Basic256Sha256" 3, opnNone, opnSecure "Basic256Sha256" 3] =
      [.accept ⟨"Basic256Sha256", 3⟩, .reject, .reject] ∧
    opnSeq srvB256SE (some freshChan) [opnNone, opnSecure "Basic256Sha256" 3] =
      [.accept ⟨"None", 1⟩, .accept ⟨"Basic256Sha256", 3⟩] ∧
    classifyRenew srvB256SE ⟨"Basic256Sha256", 2⟩ = "C30.renew-switches-security" ∧
    classifyRenew srvB256SE ⟨"Basic256Sha256", 3⟩ = "enabled" := by decide +kernel

/-! ### non-vacuity -/

example : serverOpn srvB256SE (opnSecure "Basic256Sha256" modeSignAndEncrypt) = .accept ⟨"Basic256Sha256", 3⟩ := by decide +kernel
example : serverOpn srvB256SE { opnNone with mode := modeSign } = .reject := by decide +kernel
example : serverOpn srvB256SE { (opnSecure "Basic256Sha256" 3) with body := .plain } = .reject := by decide +kernel
example : serverOpn srvB256SE (opnSecure "Bogus" 3) = .reject := by decide +kernel
example : enabledOf [("Basic256", 2), ("Basic256", 2), ("Bogus", 2), ("None", 1)] = [⟨"Basic256", 2⟩, ⟨"None", 1⟩] := by decide +kernel

end Opcua.Props.C30
