import OpcuaModel.Model.CodecMain
import OpcuaModel.Gen.Types
/-
  C03 — any successfully decoded value can be re-encoded and decodes identically.

  Same model as C01/C02.  `C03_stable_partial` is the proved region: a decoded
  value that is well typed (`wt`) and in normal form (`norm v = v`, which is what
  the decoder returns for every encoder-produced input by C01) re-encodes without
  error or panic and decodes to itself.  Both guards are decidable; the runner
  evaluates them on every decoded value and reports how many fall under the theorem.
  Outside the guard lie the non-canonical encodings: there the property is sampled
  by the differential run, and every way in which it was seen to fail is a finding
  with a machine-checked witness below.
-/
namespace Opcua.Props.C03
open Opcua Opcua.Codec

-- for the elaborator on the `rfl` witnesses below (registry lookups in `Gen.extObjTypes`); no general theorem needs it
set_option maxRecDepth 8192

def env : Env := { limit := none, exts := Gen.extObjTypes }

def okIs (r : Res Val) (p : Val → Bool) : Bool :=
  match r with
  | .ok v _ => p v
  | .fail _ => false

def failIs {α : Type} (r : Res α) (f : Fail) : Bool :=
  match r with
  | .fail g => g == f
  | _ => false

/-- C03 on the guard: a value that is well typed and in normal form is re-encoded without error or panic and
    decodes to itself (`rt_all` with `norm v = v`) -/
theorem C03_stable_partial (fuel : Nat) (t : Ty) (v : Val) (a : Nat)
    (hw : wt env fuel t v = true) (hn : norm env fuel t v = v) :
    ∃ bs, encode env fuel t v = .ok bs ∧ decode env fuel t ⟨bs, a⟩ = .ok v ⟨[], a⟩ := by
  obtain ⟨bs, hb, r⟩ := rt_all env rfl fuel t v hw
  exact ⟨bs, hb, hn ▸ r.whole a⟩

/-- what `decode` returns for an encoder-produced input is again decodable from its own re-encoding whenever it is
    well typed: one more round trip reproduces the normal form of the normal form -/
theorem C03_second_round_trip (fuel : Nat) (t : Ty) (v : Val) (a : Nat)
    (hw : wt env fuel t v = true) (hw' : wt env fuel t (norm env fuel t v) = true) :
    ∃ b1 b2, encode env fuel t v = .ok b1 ∧ decode env fuel t ⟨b1, a⟩ = .ok (norm env fuel t v) ⟨[], a⟩ ∧
      encode env fuel t (norm env fuel t v) = .ok b2 ∧
      decode env fuel t ⟨b2, a⟩ = .ok (norm env fuel t (norm env fuel t v)) ⟨[], a⟩ := by
  obtain ⟨b1, h1, r1⟩ := rt_all env rfl fuel t v hw
  obtain ⟨b2, h2, r2⟩ := rt_all env rfl fuel t _ hw'
  exact ⟨b1, b2, h1, r1.whole a, h2, r2.whole a⟩

/-! ### findings: successfully decoded values that cannot be re-encoded, or re-encode to something else -/

/-- repaired (was finding C03.extobj-nil-value): an extension object with a type id the registry does not know
    (`ns=0;i=99`) decodes with `Value == nil` and a non-zero mask; it is re-encoded with a null body (the unknown body
    itself is not kept) and decodes to the same value — `Encode` used to panic in `ua.Encode(nil)`.  Such values are
    now inside the guard of `C03_stable_partial`. -/
theorem C03_fixed_extobj_unknown_type :
    decode env 5 .extObj ⟨[1, 0, 99, 0, 1, 2, 0, 0, 0, 0xaa, 0xbb], 0⟩
      = .ok (.extObj 1 (some ⟨some ⟨1, 0, 99, none, none⟩, [], 0⟩) "" .nil) ⟨[], 0⟩ ∧
    encode env 5 .extObj (.extObj 1 (some ⟨some ⟨1, 0, 99, none, none⟩, [], 0⟩) "" .nil)
      = .ok [1, 0, 99, 0, 1, 0xff, 0xff, 0xff, 0xff] ∧
    decode env 5 .extObj ⟨[1, 0, 99, 0, 1, 0xff, 0xff, 0xff, 0xff], 0⟩
      = .ok (.extObj 1 (some ⟨some ⟨1, 0, 99, none, none⟩, [], 0⟩) "" .nil) ⟨[], 0⟩ ∧
    wt env 5 .extObj (.extObj 1 (some ⟨some ⟨1, 0, 99, none, none⟩, [], 0⟩) "" .nil) = true :=
  ⟨rfl, rfl, rfl, rfl⟩

/-- repaired: the same for a known type id sent with body length 0 -/
theorem C03_fixed_extobj_empty_body :
    decode env 5 .extObj ⟨[1, 0, 121, 0, 1, 0, 0, 0, 0], 0⟩
      = .ok (.extObj 1 (some ⟨some ⟨1, 0, 121, none, none⟩, [], 0⟩) "" .nil) ⟨[], 0⟩ ∧
    encode env 5 .extObj (.extObj 1 (some ⟨some ⟨1, 0, 121, none, none⟩, [], 0⟩) "" .nil)
      = .ok [1, 0, 121, 0, 1, 0xff, 0xff, 0xff, 0xff] ∧
    decode env 5 .extObj ⟨[1, 0, 121, 0, 1, 0xff, 0xff, 0xff, 0xff], 0⟩
      = .ok (.extObj 1 (some ⟨some ⟨1, 0, 121, none, none⟩, [], 0⟩) "" .nil) ⟨[], 0⟩ :=
  ⟨rfl, rfl, rfl⟩

/-- an extension object of a registered type without fields (i=121, `DataTypeDefinition`) decodes to a value whatever
    its body holds, re-encodes with body length 0, and that decodes to `Value == nil` -/
theorem C03_finding_extobj_zero_field_type :
    decode env 5 .extObj ⟨[0, 121, 1, 2, 0, 0, 0, 0xaa, 0xbb], 0⟩
      = .ok (.extObj 1 (some ⟨some ⟨0, 0, 121, none, none⟩, [], 0⟩) "DataTypeDefinition" (.ptr (.struct []))) ⟨[], 0⟩ ∧
    encode env 5 .extObj (.extObj 1 (some ⟨some ⟨0, 0, 121, none, none⟩, [], 0⟩) "DataTypeDefinition" (.ptr (.struct [])))
      = .ok [0, 121, 1, 0, 0, 0, 0] ∧
    decode env 5 .extObj ⟨[0, 121, 1, 0, 0, 0, 0], 0⟩
      = .ok (.extObj 1 (some ⟨some ⟨0, 0, 121, none, none⟩, [], 0⟩) "" .nil) ⟨[], 0⟩ :=
  ⟨rfl, rfl, rfl⟩

/-- DateTime 9999-12-31T23:59:59Z (ticks 2650467743990000000, the usual "max" value) is outside the int64-nanosecond
    range: it decodes to a wrapped time, which re-encodes to other ticks, which decode to yet another time -/
theorem C03_finding_datetime_range :
    ticksTime 2650467743990000000 = some (-4852116232933722624) ∧
    timeTicks (some (-4852116232933722624)) = 67923573670662774 ∧
    ticksTime 67923573670662774 = some (-4852116232933722600) ∧
    decode env 1 .time ⟨leBytes 8 2650467743990000000, 0⟩ = .ok (.time (ticksTime 2650467743990000000)) ⟨[], 0⟩ ∧
    encode env 1 .time (.time (some (-4852116232933722624))) = .ok (leBytes 8 (timeTicks (some (-4852116232933722624)))) := by
  refine ⟨by decide +kernel, by decide +kernel, by decide +kernel, ?_, rfl⟩
  simp [decode, readTime, (reads_readUInt 8 2650467743990000000 (by decide)).whole 0]

/-- repaired (was finding C03.variant-scalar-dims-bit): a scalar Variant whose mask carries the dimensions bit (0x46:
    Int32 + 0x40) is re-encoded without a dimensions field, so a DataValue holding it is stable.  `Encode` used to
    append `arrayDimensionsLength` (4 bytes) that `Decode` never reads for a scalar: the status 0x12345678 behind it
    came back as 0. -/
theorem C03_fixed_variant_scalar_dims_bit :
    decode env 3 .dataValue ⟨[3, 0x46, 42, 0, 0, 0, 0x78, 0x56, 0x34, 0x12], 0⟩
      = .ok (.dataValue 3 (.variant 0x46 0 0 none ⟨6, 0⟩ (.int 42)) 0x12345678 none 0 none 0) ⟨[], 0⟩ ∧
    encode env 3 .dataValue (.dataValue 3 (.variant 0x46 0 0 none ⟨6, 0⟩ (.int 42)) 0x12345678 none 0 none 0)
      = .ok [3, 0x46, 42, 0, 0, 0, 0x78, 0x56, 0x34, 0x12] ∧
    wt env 3 .dataValue (.dataValue 3 (.variant 0x46 0 0 none ⟨6, 0⟩ (.int 42)) 0x12345678 none 0 none 0) = true :=
  ⟨rfl, rfl, rfl⟩

/-- repaired (was finding C03.variant-bytestring-array): an array of ByteString is re-encoded with its elements and
    is stable (`Encode` used to drop them, see C01_fixed_variant_bytestring_array) -/
theorem C03_fixed_variant_bytestring_array :
    decode env 3 .variant ⟨[0x8f, 1, 0, 0, 0, 1, 0, 0, 0, 0xaa], 0⟩
      = .ok (.variant 0x8f 1 0 none ⟨15, 1⟩ (.slice false [.bytes (some [0xaa])])) ⟨[], 0⟩ ∧
    encode env 3 .variant (.variant 0x8f 1 0 none ⟨15, 1⟩ (.slice false [.bytes (some [0xaa])]))
      = .ok [0x8f, 1, 0, 0, 0, 1, 0, 0, 0, 0xaa] :=
  ⟨rfl, rfl⟩

/-! ### non-vacuity: non-canonical input that is stable -/

/-- a one-dimensional array sent with a dimensions field of one entry (legal, non-canonical) is well typed, normal and stable -/
example :
    let v : Val := .variant 0xc6 2 1 (some [2]) ⟨6, 1⟩ (.slice false [.int 7, .int 9])
    decode env 3 .variant ⟨[0xc6, 2,0,0,0, 7,0,0,0, 9,0,0,0, 1,0,0,0, 2,0,0,0], 0⟩ = .ok v ⟨[], 0⟩ ∧
    wt env 3 .variant v = true ∧ norm env 3 .variant v = v :=
  ⟨rfl, rfl, rfl⟩

end Opcua.Props.C03
