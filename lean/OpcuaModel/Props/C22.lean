import OpcuaModel.Model.Session
import OpcuaModel.Gen.SessionFacts
import OpcuaModel.Model.ReconnectSession
/-
  C22 — a session is established only after the server proves its identity.

  `Session.connect f m s` is the model of `Client.Connect` for code facts `f`
  (which error branches propagate; `Gen.sessionFacts` is what the generator
  read from the working tree), security mode `m` and server behaviour `s`.
  All theorems quantify over every server behaviour (4·8·2·3·4·4·4·2 shapes),
  both signed modes and — where stated for `f` — every repair state.
-/
namespace Opcua.Props.C22
open Opcua Opcua.Session

/-- SAFETY, full strength, for the code as it is and for every repair state:
    in a signed mode `Connect` returns nil only if the signature verified with
    the certificate of the response; the client reports `Connected` or sends an
    ActivateSessionRequest only in that case. -/
theorem C22_only_after_proof (f : CodeFacts) (m : Mode) (s : Server) (hm : m ≠ .none)
    (h : ¬ sigValid s) :
    (connect f m s).outcome ≠ .ok ∧ ConnState.connected ∉ (connect f m s).states ∧
    (connect f m s).activateSent = false := by
  rw [connect_of_invalid hm h]
  cases crashes f s.create _ <;> decide

/-- the same statement for the working tree the generator read -/
theorem C22_only_after_proof_tree (m : Mode) (s : Server) (hm : m ≠ .none) (h : ¬ sigValid s) :
    (connect Gen.sessionFacts m s).outcome ≠ .ok ∧
    ConnState.connected ∉ (connect Gen.sessionFacts m s).states ∧
    (connect Gen.sessionFacts m s).activateSent = false :=
  C22_only_after_proof Gen.sessionFacts m s hm h

/-- ACCEPT: a genuine server (valid signature, well-formed answers) is connected,
    in every mode and every repair state -/
theorem C22_accept (f : CodeFacts) (m : Mode) (s : Server) (hv : sigValid s)
    (hc : s.create = .ok) (ha : s.activate = .ok) (hn : s.nsRead = .ok) (hs : s.nsIsStrings = true) :
    connect f m s = ⟨.ok, [.connecting, .connected], true⟩ := by
  simp only [connect, verify_eq, hv, or_true, if_true, hc, ha, updateNamespaces, hn, hs]
  rfl

/-- in mode None no signature is required (Part 4: the signature is empty) -/
theorem C22_none_ignores_signature (f : CodeFacts) (s : Server)
    (hc : s.create = .ok) (ha : s.activate = .ok) (hn : s.nsRead = .ok) (hs : s.nsIsStrings = true) :
    (connect f .none s).outcome = .ok := by
  simp only [connect, verify_eq, true_or, if_true, hc, ha, updateNamespaces, hn, hs]
  rfl

/-- REJECT, the property's second half ("returns an error, not connected, no
    panic"): PARTIAL before the repairs (`asIs`) — it holds when the CreateSession
    answer is not a Good response of the right type (then the error of the
    transport / status wins), except for a non-RSA certificate under a response
    of the expected type. -/
theorem C22_reject_partial (m : Mode) (s : Server) (hm : m ≠ .none) (h : ¬ sigValid s)
    (hguard : s.create ≠ .ok) (hrsa : s.cert ≠ .nonRsa ∨ s.create = .fault ∨ s.create = .wrongType) :
    (connect asIs m s).outcome = .err ∧ (connect asIs m s).final = .closed := by
  rw [connect_of_invalid hm h]
  rcases hrsa with hrsa | hrsa | hrsa
  · simp [hrsa, crashes, hguard, Result.final]
  -- these two kinds of answer never reach the handler, whatever the verdict would be
  all_goals rw [hrsa]; split <;> decide

/-- FINDING C22.nil-session-after-bad-signature: as long as neither repair is
    in, EVERY Good CreateSessionResponse whose signature does not verify
    (certificate an RSA one or unreadable) makes `Connect` panic:
    `CreateSession` returns `(nil, nil)` and `ActivateSession` dereferences the
    nil session. -/
theorem C22_finding_nil_session (f : CodeFacts) (hf : f.nilRepaired = false) (m : Mode) (s : Server)
    (hm : m ≠ .none) (h : ¬ sigValid s) (hc : s.create = .ok) (hrsa : s.cert ≠ .nonRsa) :
    connect f m s = ⟨.panic, [.connecting], false⟩ := by
  rw [connect_of_invalid hm h, hc]
  simp [crashes, hf, hrsa]

/-- the witness of the finding: Sign mode, own certificate, one bit of the
    signature flipped -/
theorem C22_finding_nil_session_witness :
    (connect asIs .sign ⟨.ok, .own, .own, .right, .bitFlipped, .ok, .ok, true⟩).outcome = .panic := by
  decide

/-- FINDING C22.non-rsa-server-cert: a certificate with a non-RSA key in the
    CreateSessionResponse panics in `VerifySessionSignature`
    (`remoteX509Cert.PublicKey.(*rsa.PublicKey)`), whatever the signature is,
    also with the nil session repaired and also when the status is Bad. -/
theorem C22_finding_non_rsa (f : CodeFacts) (m : Mode) (s : Server) (hm : m ≠ .none)
    (hf : f.rsaAssertChecked = false) (hc : s.create = .ok ∨ s.create = .badStatus)
    (hcert : s.cert = .nonRsa) :
    (connect f m s).outcome = .panic := by
  have h : ¬ sigValid s := by simp [sigValid, sigVerifies, certKey, hcert]
  rw [connect_of_invalid hm h]
  rcases hc with hc | hc <;> simp [hc, hcert, hf, crashes]

/-- REPAIRED: with the nil session repaired (either `return nil, err` in
    CreateSession or a nil check before use) and the comma-ok assertion, the
    reject half holds at full strength. -/
theorem C22_reject_repaired (f : CodeFacts) (hf : f.nilRepaired = true) (hr : f.rsaAssertChecked = true)
    (m : Mode) (s : Server) (hm : m ≠ .none) (h : ¬ sigValid s) :
    (connect f m s).outcome = .err ∧ (connect f m s).final = .closed ∧
    ConnState.connected ∉ (connect f m s).states ∧ (connect f m s).activateSent = false := by
  rw [connect_of_invalid hm h]
  simp [crashes, hf, hr, Result.final]

/-- with only the nil session repaired, the reject half holds for every
    certificate except the non-RSA one -/
theorem C22_reject_repaired_rsa (f : CodeFacts) (hf : f.nilRepaired = true)
    (m : Mode) (s : Server) (hm : m ≠ .none) (h : ¬ sigValid s) (hrsa : s.cert ≠ .nonRsa) :
    (connect f m s).outcome = .err ∧ (connect f m s).final = .closed := by
  rw [connect_of_invalid hm h]
  simp [crashes, hf, hrsa, Result.final]

/-- The property C22 (reject half) holds for code facts `f` exactly when both
    defects are repaired: the split of the domain is machine-checked. -/
theorem C22_reject_iff_repaired (f : CodeFacts) :
    (∀ (m : Mode) (s : Server), m ≠ .none → ¬ sigValid s → (connect f m s).outcome = .err) ↔
    (f.nilRepaired = true ∧ f.rsaAssertChecked = true) := by
  constructor
  · intro h
    have h1 := h .sign ⟨.ok, .own, .own, .right, .bitFlipped, .ok, .ok, true⟩ (by decide) (by decide)
    have h2 := h .sign ⟨.ok, .nonRsa, .own, .right, .intact, .ok, .ok, true⟩ (by decide) (by decide)
    rcases f with ⟨a, b, c⟩
    cases a <;> cases b <;> cases c <;> revert h1 h2 <;> decide
  · rintro ⟨h1, h2⟩ m s hm hs
    exact (C22_reject_repaired f h1 h2 m s hm hs).1

/-- … and therefore, on the working tree the generator read, C22's reject half
    holds iff the generated facts say both repairs are in. -/
theorem C22_reject_tree :
    (∀ (m : Mode) (s : Server), m ≠ .none → ¬ sigValid s → (connect Gen.sessionFacts m s).outcome = .err) ↔
    (Gen.sessionFacts.nilRepaired = true ∧ Gen.sessionFacts.rsaAssertChecked = true) :=
  C22_reject_iff_repaired Gen.sessionFacts

/-- C22, FULL STRENGTH, for the working tree (both repairs are in the source the
    generator read): in a signed mode, a server whose session signature does not
    verify gets an error, the client ends Closed, never reports Connected,
    never sends ActivateSession. -/
theorem C22_reject (m : Mode) (s : Server) (hm : m ≠ .none) (h : ¬ sigValid s) :
    (connect Gen.sessionFacts m s).outcome = .err ∧ (connect Gen.sessionFacts m s).final = .closed ∧
    ConnState.connected ∉ (connect Gen.sessionFacts m s).states ∧
    (connect Gen.sessionFacts m s).activateSent = false :=
  C22_reject_repaired Gen.sessionFacts (by decide) (by decide) m s hm h

/-- no panic at all once both repairs are in (every mode, every behaviour) -/
theorem C22_nopanic_repaired (f : CodeFacts) (hf : f.nilRepaired = true) (hr : f.rsaAssertChecked = true)
    (m : Mode) (s : Server) : (connect f m s).outcome ≠ .panic := by
  rw [Ne, connect_panic_iff, verify_eq]
  split <;> simp [crashes, hr, hf]

/-- … and `Connect` does not panic for any server behaviour in any mode -/
theorem C22_nopanic (m : Mode) (s : Server) : (connect Gen.sessionFacts m s).outcome ≠ .panic :=
  C22_nopanic_repaired Gen.sessionFacts (by decide) (by decide) m s

/-- a certificate CHAIN in the response is identified by its first certificate
    (the one `ParseCertificate` returns, the sender's): a signature made with
    the key of a foreign certificate appended behind the genuine one proves
    nothing and is rejected; with the foreign certificate first it verifies
    only against the foreign key -/
theorem C22_chain_first_certificate_counts :
    ¬ sigValid ⟨.ok, .chainOwnOther, .other, .right, .intact, .ok, .ok, true⟩ ∧
    (connect Gen.sessionFacts .sign ⟨.ok, .chainOwnOther, .other, .right, .intact, .ok, .ok, true⟩).outcome = .err ∧
    sigValid ⟨.ok, .chainOwnOther, .own, .right, .intact, .ok, .ok, true⟩ ∧
    ¬ sigValid ⟨.ok, .chainOtherOwn, .own, .right, .intact, .ok, .ok, true⟩ := by
  decide

/-! ### the reconnect path (C22 composed into the C25 LTS) -/

/-- what the monitor's `recreateSession` action keeps of a run of the sequence of `Connect` -/
def ofConnect (r : Session.Result) : ReconnectSession.Result :=
  ⟨match r.outcome with | .ok => .session | .err => .retry | .panic => .panic,
   decide (ConnState.connected ∈ r.states), r.activateSent⟩

/-- the action runs the same `CreateSession` / `ActivateSession` / `UpdateNamespaces` sequence -/
theorem recreateSession_eq (f : CodeFacts) (m : Mode) (s : Server) :
    ReconnectSession.recreateSession f m s = ofConnect (connect f m s) := by
  unfold ReconnectSession.recreateSession connect connectCore
  cases createSession f s.create (verifySessionSignature f m s) <;> try rfl
  all_goals
    dsimp only
    rcases activateSession f _ s.activate with ⟨a, sent⟩
    cases a <;> try rfl
    cases updateNamespaces s <;> rfl

/-- RECONNECT inherits C22: when the monitor goroutine re-creates the session
    (`recreateSession`) and the server's signature does not verify, the action
    ends in an error (next action: createSecureChannel), the client holds no
    session, sent no ActivateSessionRequest and did not panic — for every
    server behaviour, both signed modes, on the working tree. -/
theorem C22_reconnect_reject (m : Mode) (s : Server) (hm : m ≠ .none) (h : ¬ sigValid s) :
    ReconnectSession.recreateSession Gen.sessionFacts m s = ⟨.retry, false, false⟩ := by
  obtain ⟨ho, -, hc, hs⟩ := C22_reject m s hm h
  rw [recreateSession_eq, ofConnect, ho, hs, decide_eq_false hc]

/-- … and a genuine server gets its session back -/
theorem C22_reconnect_accept (m : Mode) (s : Server) (hv : sigValid s)
    (hc : s.create = .ok) (ha : s.activate = .ok) (hn : s.nsRead = .ok) (hs : s.nsIsStrings = true) :
    ReconnectSession.recreateSession Gen.sessionFacts m s = ⟨.session, true, true⟩ := by
  rw [recreateSession_eq, C22_accept _ m s hv hc ha hn hs]
  rfl

/-- the result of the action is a branch of the C25 LTS at `recreate1` (so the
    lifecycle theorems of C25 apply to it), and after a rejected signature that
    branch is "no session, recreate the secure channel": the client keeps
    reconnecting and cannot report `Connected` before a later successful
    CreateSession -/
theorem C22_reconnect_is_lts_step (m : Mode) (s : Server) (st : ConnLts.St) (hp : st.mpc = .recreate1)
    (hnp : (ReconnectSession.recreateSession Gen.sessionFacts m s).outcome ≠ .panic) :
    ∃ st', ReconnectSession.ltsTarget st (ReconnectSession.recreateSession Gen.sessionFacts m s) = some st' ∧
      st' ∈ ConnLts.tau st := by
  -- any result but a panic has its branch at `recreate1`
  generalize ReconnectSession.recreateSession Gen.sessionFacts m s = r at hnp ⊢
  rcases r with ⟨o, hs, sent⟩
  unfold ConnLts.tau
  simp only [hp]
  cases o
  · exact ⟨_, rfl, List.mem_append_right _ (by simp)⟩
  · exact ⟨_, rfl, List.mem_append_right _ (by cases hs <;> simp)⟩
  · exact absurd rfl hnp

/-- non-vacuity: there are behaviours with a valid and with an invalid signature,
    and the model of the code before the repairs accepts the former -/
example : sigValid ⟨.ok, .own, .own, .right, .intact, .ok, .ok, true⟩ ∧
    ¬ sigValid ⟨.ok, .own, .other, .right, .intact, .ok, .ok, true⟩ ∧
    (connect asIs .signAndEncrypt ⟨.ok, .own, .own, .right, .intact, .ok, .ok, true⟩).outcome = .ok := by
  decide

end Opcua.Props.C22
