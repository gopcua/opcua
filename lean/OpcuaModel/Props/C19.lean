import OpcuaModel.Model.SendTimeoutInv
import OpcuaModel.Gen.SendFacts
/-
  C19 — request timeouts are bounded and never wedge the channel.

  `SendTimeout.step?`: callers (`open()` and ordinary requests), dispatcher,
  timers, the receive gate `rcvLocker`, a millisecond clock with the timeout
  leniency taken from the source.  `slack` is the assumed worst scheduling
  latency between a timer's expiry and its goroutine running.
-/
namespace Opcua.Props.C19
open Opcua Opcua.SendTimeout

/-- facts of the source the model relies on: the leniency constant, the order
    popHandler → rcvLocker.lock → (send) → rcvLocker.waitIfLock in the dispatcher,
    that the flag of the gate is only touched under its own mutex, and that each of
    the three branches of the select in `sendRequestWithTimeout` that give up
    (`ctx.Done()`, `disconnected`, timer: `cCancel`, `cTimeout`) calls `popHandler` -/
theorem C19_facts :
    Gen.SendFacts.timeoutLeniencyMs = 250 ∧
    (Gen.SendFacts.order_dispatcher.filter (fun c => c == "s.popHandler" || c == "s.rcvLocker.lock" || c == "s.rcvLocker.waitIfLock")
      = ["s.popHandler", "s.rcvLocker.lock", "s.rcvLocker.waitIfLock"]) ∧
    ((Gen.SendFacts.accesses.filter (·.field == "bLock")).all (·.held.contains "lockMu") = true) ∧
    ((Gen.SendFacts.order_sendRequestWithTimeout.filter (· == "s.popHandler")).length = 3) := by decide

/-- BOUNDED: whenever a call has left its select (response, timeout or
    cancellation), it did so before timeout + leniency + slack after entering it;
    a call still waiting has not exceeded that bound either -/
theorem C19_bounded {s : St} (h : Reachable s) (k : Nat) :
    (∀ t, leftAt (s.cpc k) = some t → t < s.t0 k + s.tmo k + leniency + s.slack) ∧
    (∀ dl opn, s.cpc k = .waiting dl opn → dl = s.t0 k + s.tmo k + leniency ∧ s.now < dl + s.slack) := by
  have hi := reachable_invT h
  exact ⟨fun t ht => (hi.left k t ht).1, fun dl opn hw => hi.dl k dl opn hw⟩

/-- the timeout branch is never blocked by another thread: once the deadline
    has passed the caller can return, whatever the dispatcher and the gate do -/
theorem C19_timeout_enabled (s : St) (k dl : Nat) (opn : Bool) (hw : s.cpc k = .waiting dl opn) (hd : dl ≤ s.now) :
    (step? s (.cTimeout k (s.handlers k))).isSome = true := by
  simp [step?, hw, hd]

/-- … and so can a cancelled call, at any time -/
theorem C19_cancel_enabled (s : St) (k dl : Nat) (opn : Bool) (hw : s.cpc k = .waiting dl opn) :
    (step? s (.cCancel k (s.handlers k))).isSome = true := by
  simp [step?, hw]

/-- SLOT RELEASED: a call that has returned — with a response, by timeout, by
    cancellation or because its send failed after the registration — has no
    handler registered -/
theorem C19_slot_released {s : St} (h : Reachable s) (k t : Nat) (hl : leftAt (s.cpc k) = some t) : s.handlers k = false :=
  ((reachable_invT h).left k t hl).2

/-- in particular a failed send releases its slot at once (the handler leak is repaired) -/
theorem C19_failed_send_releases :
    (run? (init 1 5000) [.cSendFail 0]).map (fun s => (s.cpc 0, s.handlers 0)) = some (.finished 0 .sendError, false) := by
  decide

/-- NO WEDGE, partial (guard `SendTimeout.Guard`: an `open()` does not time out /
    get cancelled while the dispatcher is between `popHandler` and
    `rcvLocker.lock()` for its response; conforming peer): whenever the dispatcher
    waits at the locked gate some `open()` is still in flight, its deferred
    `rcvLocker.unlock()` pending -/
theorem C19_no_wedge_partial {s : St} (h : ReachableGP s) : ¬ Wedged s := by
  intro hw
  have hi := reachableGP_invW h
  obtain ⟨k, hk⟩ := hi.lockedFor hw.2.1
  have := (reachable_invT (reachableGP_reachable h)).no_open hw.2.2 k
  rw [hi.lockOpen k hk] at this; cases this

/-- FINDING C19.rcvlocker-wedge: the response to the OpenSecureChannel request
    arrives as the timer fires.  The dispatcher has popped the handler; `open()`
    times out and runs its deferred `rcvLocker.unlock()`; only then the dispatcher
    executes `rcvLocker.lock()` and waits at the gate — for ever: a later request
    (caller 1) is sent, its response cannot be received, it times out. -/
def wedgeTrace : List Label :=
  [.cSend 0 1000 true, .tick 1249, .dRecv 0 true true, .tick 1, .cTimeout 0 false, .cUnlock 0,
   .dRcvLock, .dSend, .cSend 1 1000 false, .tick 1250, .cTimeout 1 true]

theorem C19_finding_rcvlocker_wedge :
    (run? (init 2 5000) wedgeTrace).map (fun s => (decide (Wedged s), (step? s .dWait).isSome, s.cpc 1, s.delivered)) =
      some (true, false, .finished 2500 .timeout, 1) := by decide

theorem C19_no_wedge_not_full : ¬ ∀ s, Reachable s → ¬ Wedged s := fun h =>
  have hd : (run? (init 2 5000) wedgeTrace).map (fun s => decide (Wedged s)) = some true := by decide
  have ⟨s, hs, hw⟩ := Option.map_eq_some_iff.1 hd
  h s (reachable_run wedgeTrace (.init 2 5000) hs) (of_decide_eq_true hw)

/-- the guard is left exactly at the timeout of the `open()` call -/
theorem C19_guard_excludes_wedge :
    (run? (init 2 5000) (wedgeTrace.take 4)).map (fun s => decide (Guard s (.cTimeout 0 false))) = some false := by
  decide

/-- non-vacuity: a late response to an ordinary request is dropped, the channel
    goes on; a renewal answered in time locks and unlocks the gate -/
example :
    (run? (init 3 5000)
      [.cSend 0 100 false, .tick 350, .cTimeout 0 true, .dRecv 0 false false,
       .cSend 1 1000 true, .dRecv 1 true true, .dRcvLock, .dSend, .cRecv 1, .cUnlock 1, .dWait,
       .cSend 2 100 false, .dRecv 2 false true, .dSend, .dWait, .cRecv 2]).map
      (fun s => (s.cpc 0, s.cpc 1, s.cpc 2, s.dropped, s.rcvLocked, decide (Wedged s)))
    = some (.finished 350 .timeout, .finished 350 .got, .finished 350 .got, 1, false, false) := by decide

end Opcua.Props.C19
