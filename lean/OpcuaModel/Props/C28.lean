import OpcuaModel.Model.MonMap
import OpcuaModel.Model.MonMapLemmas
/-
  C28 — monitor notifications name the right node and converge to the latest value.

  (A) the handle ↦ node map of `monitor.Subscription` and the client handle each
      server item received on the wire, over every history of AddMonitorItems /
      RemoveMonitorItems (any per-item results, failing calls, unknown items) and
      reconnects that recreate the items from the stored requests;
  (B) the server's change-notification path (value read under the lock when the
      notification is sent, FIFO channel, publish queue keyed by client handle) over
      every interleaving of writes, notification goroutines (including the initial-value
      goroutine of CreateMonitoredItems), collects and publishes.
-/
namespace Opcua.Props.C28
open Opcua Opcua.Mon

/-! ### (A) the right node -/

/-- For every history of AddMonitorItems / RemoveMonitorItems calls and reconnects that
    recreate the subscription from the stored request objects — any per-item results,
    failing calls, unknown items, requests that share one `*ua.MonitoringParameters`
    object, failed recreations —: whatever a server item sends, the message is delivered under the node that
    item samples, or as a "handle not found" error (item removed meanwhile), never under
    another node. -/
theorem C28_node (ops : List Op) :
    ∀ it ∈ (runOps St.empty ops).srv, ∀ n, deliver (runOps St.empty ops) it = some n → n = it.node := by
  intro it hit n hd
  exact ((invA_history ops).srv it hit).agrees n hd

/-- client handles are never reused: every handle of a call is above everything handed
    out before (`s.next`) and within the range the call advances `next` by -/
theorem C28_handles_fresh (s : St) (reqs : List Req) (r : Req) (h : Nat)
    (hm : (r, h) ∈ assign s.next reqs) : s.next < h ∧ h ≤ s.next + reqs.length :=
  assign_range hm

/-- every mapped handle was handed out (is at most `nextClientHandle`) -/
theorem C28_handles_bounded (ops : List Op) (k : Nat) (n : Node)
    (h : (runOps St.empty ops).handles k = some n) : k ≤ (runOps St.empty ops).next :=
  (invA_history ops).bounded k n h

/-- Recreation keeps the handles: every item a recreated subscription has on the server carries
    the (node, client handle) pair of a create request stored before — each request object still
    holds the handle written when it was built (its own copy of the parameters).  That two
    recreated items carry different pairs is not stated: it needs `order` to name each key once,
    as the iteration over a Go map does. -/
theorem C28_recreate_keeps_handles (s : St) (order : List Nat) :
    ∀ it ∈ (recreate s order true).srv, ∃ e ∈ s.stored, it.node = e.node ∧ it.handle = e.handle := by
  intro it hit
  simp only [recreate, if_true, List.mem_map] at hit
  obtain ⟨x, hx, rfl⟩ := hit
  exact mem_recreate_reqs hx

/-- client handles are a uint32 counter starting at 100: as long as fewer than 2^32 − 101
    handles have been handed out (`next < 2^32`) no handle has wrapped around, which is the
    standing hypothesis of the model (`Nat` handles); `C28_handles_bounded` shows every
    handle in use is at most `next` -/
theorem C28_no_wrap (ops : List Op) (hw : (runOps St.empty ops).next < 4294967296) (k : Nat) (n : Node)
    (h : (runOps St.empty ops).handles k = some n) : k < 4294967296 :=
  Nat.lt_of_le_of_lt (C28_handles_bounded ops k n h) hw

/-- a reconnect in the middle of a history: items created with a shared parameters object,
    one refused item, a recreation (map order 2, 0, 1), a later add — every server item is
    still delivered under its own node and the refused item's request (key 0), which is
    re-sent and now accepted, is delivered as "handle not found" -/
example :
    let s := runOps St.empty [.add [⟨0, some 7⟩, ⟨1, some 7⟩, ⟨2, none⟩] [true, true, false],
                              .recreate [2, 0, 1] true, .add [⟨3, none⟩] [true]]
    s.srv = [⟨3, 1, 102⟩, ⟨4, 2, 103⟩, ⟨5, 0, 101⟩, ⟨6, 3, 104⟩] ∧
    s.srv.map (deliver s) = [some 1, none, some 0, some 3] := by
  decide

/-- the former finding C28.shared-params-handle-alias, now repaired: two requests that
    point to the same MonitoringParameters object go to the server with their own
    handles (101, 102) and each item's data is delivered under its own node -/
theorem C28_shared_params_ok :
    (add St.empty [⟨0, some 7⟩, ⟨1, some 7⟩] [true, true]).srv = [⟨1, 0, 101⟩, ⟨2, 1, 102⟩] ∧
    deliver (add St.empty [⟨0, some 7⟩, ⟨1, some 7⟩] [true, true]) ⟨1, 0, 101⟩ = some 0 ∧
    deliver (add St.empty [⟨0, some 7⟩, ⟨1, some 7⟩] [true, true]) ⟨2, 1, 102⟩ = some 1 := by
  decide

/-- a failed item loses its handle, the others keep theirs -/
example :
    (add St.empty [⟨0, some 7⟩, ⟨1, some 8⟩, ⟨2, none⟩] [true, false, true]).srv = [⟨1, 0, 101⟩, ⟨2, 2, 103⟩] ∧
    deliver (add St.empty [⟨0, some 7⟩, ⟨1, some 8⟩, ⟨2, none⟩] [true, false, true]) ⟨1, 0, 101⟩ = some 0 ∧
    (add St.empty [⟨0, some 7⟩, ⟨1, some 8⟩, ⟨2, none⟩] [true, false, true]).handles 102 = none := by
  decide

/-! ### (B) convergence -/

/-- The newest value on its way to the application (channel, queue, last delivery) for an
    item equals the node's current value whenever no notification for that node is still
    scheduled — in every reachable state, i.e. for every interleaving of concurrent
    writers, the initial-value goroutine, collects and publishes.  (Each item has its own
    client handle: `SReach`.) -/
theorem C28_newest_is_current (s : Srv) (hr : SReach s) (h : Nat) (n : Node)
    (hit : (h, n) ∈ s.items) (hp : n ∉ s.pending) : latest s h = some (s.vals n) :=
  (invB_reach hr).current (h, n) hit hp

/-- Convergence: once writes have stopped and everything under way has been published
    (no scheduled notification, empty channel, empty queue), the last value delivered for
    every monitored item is the node's current value. -/
theorem C28_converge (s : Srv) (hr : SReach s) (hq : quiet s) (h : Nat) (n : Node)
    (hit : (h, n) ∈ s.items) : s.last h = some (s.vals n) := by
  obtain ⟨hp, hc, hqq⟩ := hq
  have := C28_newest_is_current s hr h n hit (by simp [hp])
  simpa [latest, hc, chanLast, hqq, orr] using this

/-- a write racing the initial-value goroutine is harmless on this code: the goroutine reads
    the value *under the lock when it sends*, so whichever order the two notifications run in,
    the newest value under way is the written one -/
theorem C28_initial_value_race :
    (srun Srv.empty [.create 5 0, .write 0 9, .cn 1, .cn 0, .collect, .collect, .publish]).map
        (fun s => (s.last 5, s.vals 0)) = some (some 9, 9) ∧
    (srun Srv.empty [.create 5 0, .write 0 9, .cn 0, .cn 0, .collect, .collect, .publish]).map
        (fun s => (s.last 5, s.vals 0)) = some (some 9, 9) := by
  decide

/-- why `SReach` asks for one client handle per item (which `C28_handles_fresh` gives for
    the monitor): two items with the same handle would share one queue slot — the state is
    quiet and the value delivered for handle 5 is node 0's, not node 1's -/
theorem C28_distinct_handles_needed :
    (srun Srv.empty [.create 5 0, .create 5 1, .cn 0, .cn 0, .write 0 9, .cn 0,
        .collect, .collect, .collect, .publish]).map
      (fun s => (s.pending, s.chan, s.last 5, s.vals 1)) = some ([], [], some 9, 0) := by
  decide

end Opcua.Props.C28
