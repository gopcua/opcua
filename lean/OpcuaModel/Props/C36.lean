import OpcuaModel.Model.Lockset
import OpcuaModel.Model.LocksetTable
import OpcuaModel.Gen.RaceFacts
/-
  C36 (PARTIAL) — data-race freedom of client, secure channel and server, lockset part.

  Model/Lockset.lean: traces of threads with mutex / RWMutex / read / write / go events, well-formedness
  (mutual exclusion, release only what is held), happens-before = program order + Unlock→Lock edges +
  goroutine start; theorem: a consistent lockset implies that conflicting accesses are ordered.
  Model/LocksetTable.lean: the step from a table of syntactic access sites to that theorem.
  Gen/RaceFacts.lean: the table extracted from the current source (harness/internal/racefacts).

  What is proved is a statement about the MODEL and the TABLE; that the running code conforms to the
  table (`Conforms`: every access executes a listed site and really holds the listed mutexes of the same
  object) is the trusted, syntactic part.  The race detector runs of harness/cmd/c36 confirm or refute
  table entries; they are not part of any theorem.
-/
namespace Opcua.Props.C36
open Opcua.Lockset Opcua.Gen.RaceFacts

/-- lockset soundness (unbounded traces and threads): if every write of x holds l exclusively and every
    read of x holds l in either mode, any two conflicting accesses of x by different threads are ordered
    by happens-before — no data race on x in the sense of the Go memory model -/
theorem C36_lockset_sound {L X : Type} {tr : Trace L X} {x : X} {l : L}
    (wf : WF tr) (d : Disciplined tr x l) : RaceFree tr x := lockset_sound wf d

/-- a location that is never written has no race -/
theorem C36_readonly_sound {L X : Type} {tr : Trace L X} {x : X}
    (h : ∀ (i t : Nat), tr[i]? ≠ some ⟨t, .wr x⟩) : RaceFree tr x := readonly_sound h

/-- constructor writes: what a thread did before a `go` statement happens before everything the new
    goroutine does (why rows marked `fresh` are left out of the lockset condition) -/
theorem C36_init_before_go {L X : Type} {tr : Trace L X} {i f j t c : Nat} {a b : Op L X}
    (hif : i < f) (hfj : f < j) (hi : tr[i]? = some ⟨t, a⟩) (hf : tr[f]? = some ⟨t, .fork c⟩)
    (hj : tr[j]? = some ⟨c, b⟩) : HB tr i j := HB.trans (HB.po hif hi hf) (HB.fork hfj hf hj)

/-- the model is not vacuous: a well-formed disciplined trace with a real conflict (writer under Lock,
    reader under RLock) is race free … -/
theorem C36_model_nonvacuous : WF exGood ∧ Conflict exGood 7 1 4 ∧ RaceFree exGood 7 :=
  have wf : WF exGood := WF_of_okAt (by decide)
  ⟨wf, ⟨1, 2, .wr 7, .rd 7, by decide, rfl, rfl, rfl, rfl, Or.inl rfl⟩,
    lockset_sound wf (disciplined_of_forall (l := 0) (by decide))⟩

/-- … two writers without any mutex race … -/
theorem C36_model_race_without_lock : WF exRacy ∧ ¬ RaceFree exRacy 7 :=
  -- different threads, and no event from the first write up to the second that could order them
  ⟨WF_of_okAt (by decide), fun h => absurd
    (HB_cross (h 0 1 (by decide) ⟨1, 2, .wr 7, .wr 7, by decide, rfl, rfl, rfl, rfl, Or.inl rfl⟩)) (by decide)⟩

/-- … and so do two writers that hold two DIFFERENT mutexes (inconsistent lockset) -/
theorem C36_model_race_two_locks : WF exTwoLocks ∧ ¬ RaceFree exTwoLocks 7 :=
  -- the only events from the first write up to the second are that write and an acquire
  ⟨WF_of_okAt (by decide), fun h => absurd
    (HB_cross (h 1 3 (by decide) ⟨1, 2, .wr 7, .wr 7, by decide, rfl, rfl, rfl, rfl, Or.inl rfl⟩)) (by decide)⟩

/-- table → model, for the generated table: a field all of whose (non-constructor) access sites hold one
    mutex of the same struct (writes exclusively) is race free in every well-formed trace that conforms
    to the table -/
theorem C36_lockset_partial {f l : String} (h : protectedBy sites lockOwners f l = true)
    {tr : ObjTrace} {o : Nat} (wf : WF tr) (hc : Conforms sites lockOwners tr o f) :
    RaceFree tr (o, f) := table_sound h wf hc

/-- the same for fields that are only read outside constructors -/
theorem C36_readonly_partial {f : String} (h : readonlyField sites f = true)
    {tr : ObjTrace} {o : Nat} (hc : Conforms sites lockOwners tr o f) :
    RaceFree tr (o, f) := table_readonly_sound h hc

/-- the fields the property names, with the mutex the current source protects them by -/
def corePairs : List (String × String) := [
  ("uasc.SecureChannel.handlers", "uasc.SecureChannel.handlersMu"),
  ("uasc.SecureChannel.chunks", "uasc.SecureChannel.chunksMu"),
  ("uasc.SecureChannel.instances", "uasc.SecureChannel.instancesMu"),
  ("uasc.SecureChannel.activeInstance", "uasc.SecureChannel.instancesMu"),
  ("uasc.conditionLocker.bLock", "uasc.conditionLocker.lockMu"),
  ("opcua.Client.subs", "opcua.Client.subMux"),
  ("opcua.Client.pendingAcks", "opcua.Client.subMux"),
  ("opcua.Subscription.items", "opcua.Subscription.itemsMu"),
  ("opcua.Subscription.params", "opcua.Subscription.paramsMu"),
  ("server.SubscriptionService.Subs", "server.SubscriptionService.Mu"),
  ("server.SubscriptionService.lastSubID", "server.SubscriptionService.Mu"),
  ("server.MonitoredItemService.Items", "server.MonitoredItemService.Mu"),
  ("server.MonitoredItemService.Nodes", "server.MonitoredItemService.Mu"),
  ("server.MonitoredItemService.Subs", "server.MonitoredItemService.Mu"),
  ("server.Subscription.running", "server.Subscription.Mu"),
  ("server.channelBroker.s", "server.channelBroker.mu"),
  ("server.sessionBroker.s", "server.sessionBroker.mu"),
  ("server.NodeNameSpace.nodes", "server.NodeNameSpace.mu"),
  ("server.NodeNameSpace.m", "server.NodeNameSpace.mu")]

/-- the client's channel / session / state pointers are atomic.Value cells: every site goes through
    Load/Store (race free by the memory model's rule for sync/atomic, outside the lockset model) -/
def coreAtomic : List String := [
  "opcua.Client.atomicSechan", "opcua.Client.atomicSession", "opcua.Client.atomicState",
  "opcua.Client.atomicNamespaces", "opcua.Client.atomicPublishTimeout",
  "uasc.channelInstance.bytesSent", "uasc.channelInstance.messagesSent", "server.MonitoredItemService.id"]

/-- the fields of the findings below: the table shows an inconsistently protected pair of sites -/
def racy : List String := [
  "server.Node.val", "uasc.SecureChannel.pendingReq", "uasc.Config.SecurityMode",
  "uasc.channelInstance.maxBodySize", "opcua.Subscription.RevisedPublishingInterval",
  "opcua.Subscription.RevisedLifetimeCount", "opcua.Subscription.RevisedMaxKeepAliveCount"]

/-- decided on the table of the current source: every core field has a write site, and all its sites
    hold the named mutex (re-checked on every run; a removed Lock breaks this theorem) -/
theorem C36_core_guarded :
    corePairs.all (fun p => protectedBy sites lockOwners p.1 p.2 &&
      (sitesOf sites p.1).any (·.isWrite)) = true := table.1
where
  /-- The one evaluation of the table; `C36_core_atomic` and the findings read their part off it.
      What it costs is the kernel comparing field names: a `String` literal is unpacked to its bytes
      and compared byte by byte, about a thousand heartbeats for two different names and ten times
      that for two equal names of 30 characters, and only within one evaluation is the unpacking
      shared.  Read through `runs` each row is compared once with its neighbour (14 million
      heartbeats, most neighbours being equal) and each of the 34 fields once with every run; read
      directly, each field is compared with each of the 1103 rows (53 million). -/
  table :
      corePairs.all (fun p => protectedBy sites lockOwners p.1 p.2 && (sitesOf sites p.1).any (·.isWrite)) = true ∧
      coreAtomic.all (fun f => atomicField sites f) = true ∧
      ∀ f ∈ racy, (candidatePairs sites f).isEmpty = false := by
    simp only [protectedBy, lockedBy, atomicField, candidatePairs, ← sitesIn_runs]
    decide +kernel

/-- hence: the core fields are race free in every well-formed trace conforming to the table -/
theorem C36_core_racefree {p : String × String} (hp : p ∈ corePairs)
    {tr : ObjTrace} {o : Nat} (wf : WF tr) (hc : Conforms sites lockOwners tr o p.1) :
    RaceFree tr (o, p.1) := by
  have h := List.all_eq_true.mp C36_core_guarded p hp
  simp only [Bool.and_eq_true] at h
  exact table_sound h.1 wf hc

theorem C36_core_atomic : coreAtomic.all (fun f => atomicField sites f) = true :=
  C36_core_guarded.table.2.1

/-! ### findings: the table shows an inconsistently protected pair of sites (confirmed by the race detector,
    see findings.d/C36.txt) -/

/-- what each `C36_finding_*` below reads off the table evaluation -/
theorem racy_candidates {f : String} (hf : f ∈ racy) : (candidatePairs sites f).isEmpty = false :=
  C36_core_guarded.table.2.2 f hf

/-- server.Node.val: SetAttribute replaces the value closure without any mutex while Attribute / Value read it -/
theorem C36_finding_node_val : (candidatePairs sites "server.Node.val").isEmpty = false :=
  racy_candidates (by simp [racy])

/-- uasc.SecureChannel.pendingReq: WaitGroup.Add in sendRequestWithTimeout and WaitGroup.Wait in renew share no mutex -/
theorem C36_finding_pendingReq : (candidatePairs sites "uasc.SecureChannel.pendingReq").isEmpty = false :=
  racy_candidates (by simp [racy])

/-- uasc.Config.SecurityMode: written by the server side of a renewal without a mutex, read by every sender -/
theorem C36_finding_config_mode : (candidatePairs sites "uasc.Config.SecurityMode").isEmpty = false :=
  racy_candidates (by simp [racy])

/-- uasc.channelInstance.maxBodySize: SetMaximumBodySize writes without the instance mutex the senders hold -/
theorem C36_finding_maxBodySize : (candidatePairs sites "uasc.channelInstance.maxBodySize").isEmpty = false :=
  racy_candidates (by simp [racy])

/-- opcua.Subscription.RevisedPublishingInterval (likewise RevisedLifetimeCount, RevisedMaxKeepAliveCount):
    ModifySubscription writes without a mutex, the publish loop reads under Client.subMux -/
theorem C36_finding_sub_revised :
    (candidatePairs sites "opcua.Subscription.RevisedPublishingInterval").isEmpty = false ∧
    (candidatePairs sites "opcua.Subscription.RevisedLifetimeCount").isEmpty = false ∧
    (candidatePairs sites "opcua.Subscription.RevisedMaxKeepAliveCount").isEmpty = false :=
  ⟨racy_candidates (by simp [racy]), racy_candidates (by simp [racy]), racy_candidates (by simp [racy])⟩

end Opcua.Props.C36
