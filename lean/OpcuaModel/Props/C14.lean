import OpcuaModel.Model.CryptoKeys
import OpcuaModel.Gen.KeyAssign
import OpcuaModel.Base.Lists
/-
  C14 — symmetric keys follow the specification's P_SHA derivation and are
  direction separated.

  Implementation side: `Keys.generateKeys` (the loop of uapolicy/crypto_key.go)
  and `Keys.symmetric` driven by the rows of `Gen.keyAssignRows`, which the
  generator topic `keyassign` extracts from uapolicy/policy*.go on every run
  (hash, secret/seed of both `generateKeys` calls, lengths, which key set feeds
  encrypt / decrypt / signature / verifySignature).
  Specification side: `Keys.Spec` (P_hash by the A(i) recursion, the key table of
  Part 6 §6.7.5, the profile parameters of Part 7), written independently.

  All theorems are for ALL nonces (any length, any content) and any keyed hash
  `hmac` whose output length is the hash length.
-/
namespace Opcua.Props.C14
open Opcua Opcua.Keys Opcua.CryptoRef

/-- the only thing assumed about the keyed hash: its output length -/
def HmacLen (hmac : HashAlg → Bytes → Bytes → Bytes) : Prop :=
  ∀ alg key m, (hmac alg key m).length = alg.outLen

/-- a generated constructor row implements a specification profile: same name,
    both `generateKeys` calls use the profile's hash and lengths, AES key length
    = encrypting key length, HMAC of the profile's hash, signature length -/
def Implements (ka : KeyAssign) (p : Spec.Profile) : Bool :=
  ka.name == p.name &&
  ka.first.hash == p.hash && ka.second.hash == p.hash &&
  ka.first.sigLen == p.sigKeyLen && ka.second.sigLen == p.sigKeyLen &&
  ka.first.encLen == p.encKeyLen && ka.second.encLen == p.encKeyLen &&
  ka.first.ivLen == p.blockLen && ka.second.ivLen == p.blockLen &&
  ka.encryptKeyBits == 8 * p.encKeyLen && ka.decryptKeyBits == 8 * p.encKeyLen &&
  ka.signatureHash == p.hash && ka.verifyHash == p.hash && ka.signatureLength == p.sigLen

/-- `generateKeys` is the specification's P_SHA: for ALL secrets (inside `h`),
    seeds and lengths the three keys are the slices at offsets 0, a, a+b of
    P_hash(secret, seed) truncated to a+b+c bytes -/
theorem C14_psha (h : Bytes → Bytes) (seed : Bytes) (hl : Nat) (hpos : 0 < hl)
    (hh : ∀ m, (h m).length = hl) (a b c : Nat) :
    generateKeys h seed a b c =
      { signing := (Spec.pSha h seed (a + b + c)).take a,
        encryption := ((Spec.pSha h seed (a + b + c)).drop a).take b,
        iv := ((Spec.pSha h seed (a + b + c)).drop (a + b)).take c } :=
  -- `Spec.derive` unfolds to the three slices, and a `DerivedKeys` is its three fields (structure eta)
  congrArg (fun k : DirKeys => (⟨k.signing, k.encrypting, k.iv⟩ : DerivedKeys)) (generateKeys_dir hpos hh a b c)

/-- P_hash truncated to `n` bytes has exactly `n` bytes, and the three derived
    keys have exactly the requested lengths — for all inputs (only the hash
    length is used) -/
theorem C14_key_lengths (h : Bytes → Bytes) (seed : Bytes) (hl : Nat) (hpos : 0 < hl)
    (hh : ∀ m, (h m).length = hl) (a b c : Nat) :
    (Spec.pSha h seed (a + b + c)).length = a + b + c ∧
    (generateKeys h seed a b c).signing.length = a ∧ (generateKeys h seed a b c).encryption.length = b ∧
    (generateKeys h seed a b c).iv.length = c := by
  refine ⟨pSha_length hpos hh _, ?_⟩
  have := derive_lengths (seed := seed) hpos hh a b c
  rwa [← generateKeys_dir hpos hh a b c] at this

/-- P_hash is ONE stream: asking for more bytes only extends what a shorter
    request returns (so the key lengths of a profile decide where the keys are
    cut, never what the bytes before the cut are) — for all lengths -/
theorem C14_psha_prefix (h : Bytes → Bytes) (seed : Bytes) (hl : Nat) (hpos : 0 < hl)
    (hh : ∀ m, (h m).length = hl) (n m : Nat) (hnm : n ≤ m) :
    (Spec.pSha h seed m).take n = Spec.pSha h seed n :=
  pSha_take hpos hh hnm

/-- the generated table and the specification's profile table describe the same
    five policies with the same hashes and key lengths -/
theorem C14_profiles :
    Gen.keyAssignRows.length = Spec.profiles.length ∧
    (List.zipWith Implements Gen.keyAssignRows Spec.profiles).all id = true := by decide

theorem rows_cases {ka : KeyAssign} {p : Spec.Profile} (h : (ka, p) ∈ Gen.keyAssignRows.zip Spec.profiles) :
    (ka = Gen.kaAes128Sha256RsaOaep ∧ p.name = "Aes128_Sha256_RsaOaep") ∨
    (ka = Gen.kaAes256Sha256RsaPss ∧ p.name = "Aes256_Sha256_RsaPss") ∨
    (ka = Gen.kaBasic128Rsa15 ∧ p.name = "Basic128Rsa15") ∨
    (ka = Gen.kaBasic256 ∧ p.name = "Basic256") ∨
    (ka = Gen.kaBasic256Sha256 ∧ p.name = "Basic256Sha256") := by
  simp only [Gen.keyAssignRows, Spec.profiles, List.zip_cons_cons, List.zip_nil_right, List.mem_cons,
    List.not_mem_nil, or_false, Prod.mk.injEq] at h
  rcases h with ⟨rfl, rfl⟩ | ⟨rfl, rfl⟩ | ⟨rfl, rfl⟩ | ⟨rfl, rfl⟩ | ⟨rfl, rfl⟩ <;> simp

theorem rows_directed : ∀ ka ∈ Gen.keyAssignRows, Directed ka := by decide

/-- KEY ASSIGNMENT.  For every policy row (paired with its profile), all nonces:
    a CLIENT (`localNonce` = ClientNonce, `remoteNonce` = ServerNonce) signs and
    encrypts with the specification's Client keys and verifies / decrypts with
    the Server keys; a SERVER (`localNonce` = ServerNonce) the other way round. -/
theorem C14_assignment (ka : KeyAssign) (p : Spec.Profile) (hk : (ka, p) ∈ Gen.keyAssignRows.zip Spec.profiles)
    (hmac : HashAlg → Bytes → Bytes → Bytes) (hlen : HmacLen hmac) (clientNonce serverNonce : Bytes) :
    (symmetric ka hmac clientNonce serverNonce).send = Spec.clientKeys p hmac clientNonce serverNonce ∧
    (symmetric ka hmac clientNonce serverNonce).recv = Spec.serverKeys p hmac clientNonce serverNonce ∧
    (symmetric ka hmac serverNonce clientNonce).send = Spec.serverKeys p hmac clientNonce serverNonce ∧
    (symmetric ka hmac serverNonce clientNonce).recv = Spec.clientKeys p hmac clientNonce serverNonce := by
  have hd := rows_directed ka (List.of_mem_zip hk).1
  have hi : Implements ka p = true := Lists.of_all_zipWith C14_profiles.2 hk
  simp only [Implements, Bool.and_eq_true, beq_iff_eq, and_assoc] at hi
  -- of the clauses of `Implements`, in its order: hash and the three lengths of `ka.first`
  obtain ⟨-, hhash, -, hsig, -, henc, -, hiv, -⟩ := hi
  have hs := symmetric_send_spec hd hmac hlen
  rw [hhash, hsig, henc, hiv] at hs
  exact ⟨hs _ _, (symmetric_mirror hd hmac _ _).trans (hs _ _), hs _ _, (symmetric_mirror hd hmac _ _).trans (hs _ _)⟩

/-- MIRROR.  What one side uses for sending is what its peer (the same
    constructor with the nonces swapped) uses for receiving — for every row, all
    nonces, any `hmac` (no assumption at all). -/
theorem C14_mirror (ka : KeyAssign) (hk : ka ∈ Gen.keyAssignRows)
    (hmac : HashAlg → Bytes → Bytes → Bytes) (x y : Bytes) :
    (symmetric ka hmac x y).send = (symmetric ka hmac y x).recv ∧
    (symmetric ka hmac x y).recv = (symmetric ka hmac y x).send :=
  ⟨(symmetric_mirror (rows_directed ka hk) hmac x y).symm, symmetric_mirror (rows_directed ka hk) hmac y x⟩

/-- the three key slices determine the first a+b+c bytes of the P_hash output -/
theorem derive_injective (h₁ h₂ : Bytes → Bytes) (s₁ s₂ : Bytes) (a b c : Nat)
    (e : Spec.derive h₁ s₁ a b c = Spec.derive h₂ s₂ a b c) :
    Spec.pSha h₁ s₁ (a + b + c) = Spec.pSha h₂ s₂ (a + b + c) := by
  have l : ∀ h s, (Spec.pSha h s (a + b + c)).length ≤ a + b + c := fun h s => by
    rw [Spec.pSha, List.length_take]; exact Nat.min_le_left _ _
  rw [← cut_append _ a b c (l h₁ s₁), ← cut_append _ a b c (l h₂ s₂)]
  exact congrArg (fun k : DirKeys => k.signing ++ (k.encrypting ++ k.iv)) e

/-- SEPARATION (partial: under an explicit PRF-distinctness hypothesis, which is
    a property of the hash and cannot be proved for a concrete one).  If
    swapping the roles of the two nonces changes the P_hash output, then the
    keys a side sends with differ from the keys it receives with — so traffic
    reflected to its sender is not protected with the keys the sender expects.
    The correspondence run samples the rejection on the real code. -/
theorem C14_separation_partial (ka : KeyAssign) (p : Spec.Profile)
    (hk : (ka, p) ∈ Gen.keyAssignRows.zip Spec.profiles)
    (hmac : HashAlg → Bytes → Bytes → Bytes) (hlen : HmacLen hmac) (x y : Bytes)
    (hprf : Spec.pSha (hmac p.hash y) x (p.sigKeyLen + p.encKeyLen + p.blockLen) ≠
            Spec.pSha (hmac p.hash x) y (p.sigKeyLen + p.encKeyLen + p.blockLen)) :
    (symmetric ka hmac x y).send ≠ (symmetric ka hmac x y).recv := by
  obtain ⟨h1, h2, -, -⟩ := C14_assignment ka p hk hmac hlen x y
  rw [h1, h2]
  intro e
  exact hprf (derive_injective _ _ _ _ _ _ _ e)

/-- non-vacuity: the table pairs are what `C14_assignment` quantifies over -/
example : (Gen.kaBasic256Sha256, ⟨"Basic256Sha256", .sha256, 32, 32, 16, 32⟩) ∈
    Gen.keyAssignRows.zip Spec.profiles := by decide

end Opcua.Props.C14
