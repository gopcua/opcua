import OpcuaModel.Model.Browse
import OpcuaModel.Model.AccessLemmas
import OpcuaModel.Gen.RefTypes
/-
  C33 — Browse returns exactly the matching references.

  `Browse.browse` mirrors the loop of `NodeNameSpace.Browse` with `suitableRef`,
  `suitableRefType`, `getSubRefs` (tied by the C33 correspondence run against the
  real Browse service on the live address space).  `Gen.refTypeSubs` is the
  HasSubtype forest the code walks, dumped from `server.New()` on every run.

  `SpecMatch` is the property's filter (direction, reference type equal or —
  only when subtypes are requested — a transitive subtype, class of the target
  node in the mask).  After the repairs of `suitableRefType` (the subtypes are not
  consulted when IncludeSubtypes is false; the deletion loop that ran out of the
  slice is gone) and of the class mask (`suitableRef` looks at the class the
  target node has now, not at the class recorded in the reference) the code
  satisfies it for EVERY request on EVERY node whose references are well formed
  (`C33_filter`); the only hypothesis left is that the HasSubtype forest is
  acyclic, which is proved for the regenerated standard hierarchy.
-/
namespace Opcua.Props.C33
open Opcua.Browse

/-- the DFS of `getSubRefs` computes exactly the transitive HasSubtype closure on
    every acyclic forest, for any fuel above the rank of the start node (the Go
    recursion is unbounded: it terminates exactly on such forests) -/
theorem C33_subrefs_closure (g : Graph) (rank : Nat → Nat) (hr : RankOK g rank) (fuel t x : Nat)
    (hf : rank t < fuel) : x ∈ getSubRefs g fuel t ↔ Sub g x t :=
  mem_getSubRefs g rank hr fuel t x hf

/-- the regenerated standard hierarchy is acyclic, with the generated rank table -/
theorem C33_std_acyclic : RankOK Gen.refTypeSubs (lookupRank Gen.refTypeRank) :=
  rankOK_of_check _ _ (by decide +kernel)

/-- … and `Gen.refTypeFuel` is above every rank, so the driver's fuel is enough -/
theorem C33_std_fuel : ∀ t, lookupRank Gen.refTypeRank t < Gen.refTypeFuel :=
  lookupRank_lt Gen.refTypeRank Gen.refTypeFuel (by decide) (by decide +kernel)

/-- the constants of the model are the ones of the source -/
theorem C33_ids : hasSubtype = Gen.hasSubtypeId ∧ hasTypeDefinition = Gen.hasTypeDefinitionId := by decide

/-- MAIN: on an acyclic forest, for a node whose references are well formed,
    and EVERY request (any direction value,
    reference type, subtype flag and class mask): Browse returns, up to order,
    exactly the references the specification selects — no more, no fewer, with
    multiplicity -/
theorem C33_filter (g : Graph) (rank : Nat → Nat) (hr : RankOK g rank) (fuel : Nat) (d : Desc)
    (hf : rank d.refType < fuel) (refs : List Ref)
    (hwf : ∀ r ∈ refs, r.nilField = false) :
    (browse g fuel d refs).Perm (refs.filter (specMatchB g fuel d)) ∧
      (∀ r, specMatchB g fuel d r = true ↔ SpecMatch g d r) ∧
      (∀ r, r ∈ browse g fuel d refs ↔ r ∈ refs ∧ SpecMatch g d r) :=
  ⟨by simpa [browse] using browseLoop_perm g fuel d refs [] hwf, specMatchB_iff g rank hr fuel d hf,
    mem_browse g rank hr fuel d hf refs hwf⟩

/-- the same for the regenerated standard hierarchy, with the driver's fuel -/
theorem C33_filter_std (d : Desc) (refs : List Ref)
    (hwf : ∀ r ∈ refs, r.nilField = false) :
    ∀ r, r ∈ browse Gen.refTypeSubs Gen.refTypeFuel d refs ↔ r ∈ refs ∧ SpecMatch Gen.refTypeSubs d r :=
  mem_browse Gen.refTypeSubs _ C33_std_acyclic Gen.refTypeFuel d (C33_std_fuel d.refType) refs hwf

/-- the reference type test alone is the specification's clause, for every pair of
    types and both values of the flag (without a guard) -/
theorem C33_reftype (g : Graph) (rank : Nat → Nat) (hr : RankOK g rank) (fuel t1 t2 : Nat) (sub : Bool)
    (hf : rank t1 < fuel) :
    suitableRefType g fuel t1 t2 sub = true ↔ (t1 = 0 ∨ t2 = t1 ∨ (sub = true ∧ Sub g t2 t1)) := by
  rw [suitableRefType_eq g fuel ⟨0, t1, sub, 0⟩ t2]
  exact typeOkB_iff g rank hr fuel ⟨0, t1, sub, 0⟩ hf t2

/-- REPAIRED (was C33.subtypes-match-when-excluded): with IncludeSubtypes=false a
    proper subtype no longer matches — Aggregates (44) vs HasComponent (47) /
    HasProperty (46), NonHierarchicalReferences (32) vs HasTypeDefinition (40) —
    while the type itself and, with the flag, the subtypes still do -/
theorem C33_repaired_subtypes_excluded :
    suitableRefType Gen.refTypeSubs Gen.refTypeFuel 44 47 false = false ∧
    suitableRefType Gen.refTypeSubs Gen.refTypeFuel 44 46 false = false ∧
    suitableRefType Gen.refTypeSubs Gen.refTypeFuel 32 40 false = false ∧
    suitableRefType Gen.refTypeSubs Gen.refTypeFuel 44 44 false = true ∧
    suitableRefType Gen.refTypeSubs Gen.refTypeFuel 44 47 true = true := by
  decide +kernel

/-- REPAIRED (was C33.browse-panics-hassubtype-deletion): References (31),
    HierarchicalReferences (33), HasChild (34) with IncludeSubtypes=false simply
    select nothing but the type itself; the Objects folder example returns the
    empty list -/
theorem C33_repaired_no_panic :
    suitableRefType Gen.refTypeSubs Gen.refTypeFuel 33 35 false = false ∧
    suitableRefType Gen.refTypeSubs Gen.refTypeFuel 31 35 false = false ∧
    suitableRefType Gen.refTypeSubs Gen.refTypeFuel 34 47 false = false ∧
    browse Gen.refTypeSubs Gen.refTypeFuel ⟨0, 33, false, 0⟩
      [⟨40, true, 61, 8, 8, true, false⟩, ⟨35, true, 2253, 1, 1, true, false⟩] = [] := by
  decide +kernel

/-- REPAIRED (was C33.nodeclass-mask-uses-stale-class): a reference recorded as
    Variable (2) whose target node now says Object (1) is returned by mask=Object and
    dropped by mask=Variable, as the specification says; for a target outside the
    address space the recorded class is all there is -/
theorem C33_repaired_class_mask :
    let r : Ref := ⟨47, true, 2255, 2, 1, true, false⟩
    let x : Ref := ⟨47, true, 9999, 2, 0, false, false⟩
    browse [] 1 ⟨0, 0, true, 1⟩ [r] = [r] ∧ SpecMatch [] ⟨0, 0, true, 1⟩ r ∧
    browse [] 1 ⟨0, 0, true, 2⟩ [r] = [] ∧ ¬ SpecMatch [] ⟨0, 0, true, 2⟩ r ∧
    browse [] 1 ⟨0, 0, true, 2⟩ [x] = [x] := by
  refine ⟨by decide, ?_, by decide, ?_, by decide⟩ <;> simp [SpecMatch, suitableDirection, Ref.cls]

/-- `Node.NodeClass()` on the stored attribute: the class number for the Int32 and the UInt32
    storage form, Object (1) otherwise -/
def nodeClassOf (d : Access.DV) : Nat :=
  match d with
  | .v ty p => if ty = Access.tyInt32 ∨ ty = Access.tyUInt32 then p else 1
  | _ => 1

/-- the class Browse applies the mask to does not depend on what clients have READ before: the read
    path (`NodeNameSpace.Attribute`, C31 model) rewrites a stored UInt32 NodeClass into Int32 in place,
    and for every node and every attribute read the class `Node.NodeClass()` derives from the stored
    attribute is the same afterwards -/
theorem C33_class_stable_under_reads (n : Access.Node) (attr : Nat) :
    nodeClassOf ((Access.nsAttribute n attr).2.get Access.aNodeClass) = nodeClassOf (n.get Access.aNodeClass) := by
  rcases Access.nsAttribute_snd n attr with h | ⟨p, hp, h⟩ <;> rw [h]
  unfold Access.Node.get at hp ⊢
  simp [Access.lookup_setAttr_same, hp, nodeClassOf, Access.tyInt32, Access.tyUInt32]

/-- non-vacuity: with subtypes, HierarchicalReferences selects Organizes and
    HasComponent but not HasTypeDefinition -/
example : suitableRefType Gen.refTypeSubs Gen.refTypeFuel 33 35 true = true ∧
    suitableRefType Gen.refTypeSubs Gen.refTypeFuel 33 47 true = true ∧
    suitableRefType Gen.refTypeSubs Gen.refTypeFuel 33 40 true = false ∧
    getSubRefs Gen.refTypeSubs Gen.refTypeFuel 46 = [] := by decide +kernel

end Opcua.Props.C33
