import OpcuaModel.Model.NodeIdLemmas
/-
  C04 — NodeID textual form round-trips and equality matches identity.

  `toString` / `parseNodeID` / `parseExpanded` / `equal` model
  `(*ua.NodeID).String`, `ua.ParseNodeID`, `ua.ParseExpandedNodeID`,
  `(*ua.NodeID).Equal` statement by statement (Model/NodeIdParse.lean); the
  decimal, GUID and base64 codecs are modelled and their round trips PROVED
  (Model/NodeIdText.lean) — nothing about them is assumed.  `WF` = the NodeIDs
  the library can build (all six encodings, every namespace index, every
  identifier: any bytes for String and ByteString ids, any 16 bytes for GUIDs,
  any flag bits).  `SameNode` = same namespace and same identifier, numeric
  encodings identified, flag bits ignored.

  Since the repair of the parser (a text starting with "s=" is no longer cut
  at ';'; finding C04.string-ns0-semicolon, fixed) the round trip is proved at
  FULL strength (here and below: the property as stated, for every well-formed
  NodeID, without a guard that excludes the inputs of a finding).  Since the repair of
  C04.nsu-uri-semicolon (the URI part of `nsu=` is unescaped: `%3B`, `%25`) every
  namespace URI of the table can be named (`C04_nsu_resolves`, no guard).
-/
namespace Opcua.Props.C04
open Opcua Opcua.NodeIdText

/-! ### the text codecs (proved, not assumed) -/

/-- `Atoi/ParseUint(Sprintf("%d", n)) = n`, the rendering is digits only -/
theorem C04_decimal_roundtrip (n : Nat) :
    digitsVal (dec n) = some n ∧ (∀ c ∈ dec n, isDigit c = true) ∧ 59 ∉ dec n :=
  ⟨digitsVal_dec n, dec_isDigit n, dec_no_semicolon n⟩

/-- `NewGUID(g.String()) = g` for every 16-byte GUID; the text has no ';' -/
theorem C04_guid_roundtrip (g : List Nat) (hl : g.length = 16) (hb : ∀ b ∈ g, b < 256) :
    newGUID (guidText g) = some g ∧ 59 ∉ guidText g :=
  ⟨newGUID_guidText g hl hb, guidText_no_semicolon g⟩

/-- `StdEncoding.DecodeString(EncodeToString(b)) = b` for every byte string; no ';' -/
theorem C04_base64_roundtrip (b : List Nat) (hb : ∀ x ∈ b, x < 256) :
    b64dec (b64enc b) = some b ∧ 59 ∉ b64enc b :=
  ⟨b64dec_b64enc b hb, b64enc_no_semicolon b⟩

/-! ### round trip -/

/-- what the parser returns is the same node, and again a well-formed one -/
theorem C04_canon_same (n : NodeID) (h : WF n) : SameNode (canon n) n ∧ WF (canon n) := by
  have v := h.view
  obtain ⟨h1, h2, h3, _⟩ := nodeOf_key v.ns_lt v.valid
  rw [v.canon_eq]
  exact ⟨⟨h1, h2⟩, h3⟩

/-- ROUND TRIP (full strength): the string form of every well-formed NodeID
    parses, and parses to `canon n` — the same node in the smallest numeric
    encoding with the flag bits cleared -/
theorem C04_parse_toString (n : NodeID) (h : WF n) :
    ∃ t, toString n = some t ∧ parseNodeID t = some (canon n) := by
  have v := h.view
  obtain ⟨-, -, -, hmask⟩ := nodeOf_key v.ns_lt v.valid
  refine ⟨_, v.toString_eq, parseNodeID_of ?_ (v.canon_eq ▸ hmask)⟩
  rw [parseExpanded_withNs v.ns_lt (ident n).letter_ne.2 (fun _ => (ident n).body_no_semicolon),
    parseIdent_text _ v.valid, v.canon_eq]

/-! ### equality -/

theorem SameNode.refl (a : NodeID) : SameNode a a := ⟨rfl, rfl⟩
theorem SameNode.symm {a b : NodeID} (h : SameNode a b) : SameNode b a := ⟨h.1.symm, h.2.symm⟩
theorem SameNode.trans {a b c : NodeID} (h : SameNode a b) (g : SameNode b c) : SameNode a c :=
  ⟨h.1.trans g.1, h.2.trans g.2⟩

/-- EQUALITY (full strength): two well-formed NodeIDs have the same string
    form — i.e. `Equal` holds, and they share a key in the string-keyed type
    registries — exactly when they are the same node -/
theorem C04_equal_iff (a b : NodeID) (ha : WF a) (hb : WF b) :
    (toString a = toString b ↔ SameNode a b) ∧ (equal a b = true ↔ SameNode a b) := by
  have key : toString a = toString b ↔ SameNode a b := by
    rw [ha.view.toString_eq, hb.view.toString_eq]
    constructor
    · intro h
      obtain ⟨h1, h2, h3⟩ := withNs_injective (ident a).letter_ne.1 (ident b).letter_ne.1 (Option.some.inj h)
      exact ⟨h1, Ident.text_injective ha.view.valid hb.view.valid h2 h3⟩
    · rintro ⟨h1, h2⟩
      rw [h1, h2]
  refine ⟨key, ?_⟩
  rw [← key]
  simp [equal]

/-- THE REGISTRIES (typereg.go key their maps by the string form): a type registered under `a` is
    found under `b` exactly when `a` and `b` are the same node — whatever numeric encoding or flag
    bits either carries, and never across namespaces -/
theorem C04_registry_hit_iff (a b : NodeID) (ha : WF a) (hb : WF b) (ty : Nat) :
    regLookup [(toString a, ty)] b = some ty ↔ SameNode a b := by
  rw [← (C04_equal_iff a b ha hb).1, regLookup, List.find?_singleton]
  by_cases h : toString a = toString b <;> simp [h]

/-- the parsed NodeID is `Equal` to the original (the property as stated, full strength) -/
theorem C04_roundtrip_equal (n : NodeID) (h : WF n) :
    ∃ t n', toString n = some t ∧ parseNodeID t = some n' ∧ WF n' ∧ SameNode n' n ∧ equal n' n = true := by
  obtain ⟨t, h1, h2⟩ := C04_parse_toString n h
  obtain ⟨h3, h4⟩ := C04_canon_same n h
  exact ⟨t, canon n, h1, h2, h4, h3, ((C04_equal_iff (canon n) n h4 h).2).mpr h3⟩

/-- CANONICAL FORM: the parser's result is a unique normal form — two well-formed
    NodeIDs are the same node exactly when their text forms parse to the
    identical value (same encoding byte, same fields), and parsing the text of
    an already parsed id changes nothing -/
theorem C04_canon_unique (a b : NodeID) (ha : WF a) (hb : WF b) :
    (SameNode a b ↔ canon a = canon b) ∧ canon (canon a) = canon a := by
  -- `canon` is a function of namespace and identifier alone
  have key {x y : NodeID} (hx : WF x) (hy : WF y) (hs : SameNode x y) : canon x = canon y := by
    rw [hx.view.canon_eq, hy.view.canon_eq, hs.1, hs.2]
  refine ⟨⟨key ha hb, fun h => ?_⟩, ?_⟩
  · have h1 := (C04_canon_same a ha).1
    rw [h] at h1
    exact SameNode.trans (SameNode.symm h1) (C04_canon_same b hb).1
  · obtain ⟨h1, h2⟩ := C04_canon_same a ha
    exact key h2 ha h1

/-! ### the former finding (C04.string-ns0-semicolon, fixed) as a regression -/

/-- `NewStringNodeID(0, "a;b").String()` = `s=a;b` now parses to the String id
    "a;b" of namespace 0; so do the look-alikes `s=ns=1;i=5` and `s=nsu=x;` -/
theorem C04_former_witness_roundtrips :
    toString (newString 0 [97, 59, 98]) = some [115, 61, 97, 59, 98] ∧
    parseNodeID [115, 61, 97, 59, 98] = some (newString 0 [97, 59, 98]) ∧
    parseNodeID [115, 61, 110, 115, 61, 49, 59, 105, 61, 53] = some (newString 0 [110, 115, 61, 49, 59, 105, 61, 53]) ∧
    parseNodeID [115, 61, 110, 115, 117, 61, 120, 59] = some (newString 0 [110, 115, 117, 61, 120, 59]) := by
  decide

/-- what stays an error: a text with a ';' whose first part is neither an `ns=`/`nsu=` part
    nor begins with the string prefix (`abc=0;i=2`, `i=1;x`, `foo;bar`) -/
theorem C04_malformed_namespace_rejected :
    parseNodeID [97, 98, 99, 61, 48, 59, 105, 61, 50] = none ∧
    parseNodeID [105, 61, 49, 59, 120] = none ∧
    parseNodeID [102, 111, 111, 59, 98, 97, 114] = none := by
  decide

/-- the empty text is the null NodeID `i=0` -/
theorem C04_parse_empty : parseNodeID [] = some (newTwoByte 0) := by decide

/-! ### namespace URIs (`nsu=`) against a namespace table -/

/-- the escape of the reserved characters is undone by the parser and leaves no ';' in the text -/
theorem C04_nsu_escape_roundtrip (u : Text) : unescNsu (escNsu u) = u ∧ 59 ∉ escNsu u :=
  ⟨unescNsu_escNsu u, escNsu_no_semicolon u⟩

/-- NAMESPACE URIs, full strength (since the repair of C04.nsu-uri-semicolon): EVERY URI the
    table contains — any bytes, ';' and '%' included — is named by its escaped text form:
    `nsu=<esc u>;<id>` gives the same namespace index and identifier as `ns=<index of u>;<id>`,
    for every identifier text (also when both fail) -/
theorem C04_nsu_resolves (tbl : List Text) (u rest : Text) (k : Nat)
    (hk : tbl.findIdx? (· == u) = some k) (hk' : k ≤ 65535) :
    (parseExpanded ([110, 115, 117, 61] ++ escNsu u ++ 59 :: rest) (some tbl)).map nodeKey =
    (parseExpanded ([110, 115, 61] ++ dec k ++ 59 :: rest) (some tbl)).map nodeKey := by
  have hk' : k < 65536 := Nat.lt_succ_of_le hk'
  rw [parseExpanded_nsu (escNsu u) rest tbl (escNsu_no_semicolon u), unescNsu_escNsu, hk, parseExpanded_nsIdx k hk']
  simp only [Nat.mod_eq_of_lt hk']
  exact parseIdent_nsu_key k u rest

/-- … and a URI the table does not contain is refused -/
theorem C04_nsu_unknown (tbl : List Text) (u rest : Text) (hk : tbl.findIdx? (· == u) = none) :
    parseExpanded ([110, 115, 117, 61] ++ escNsu u ++ 59 :: rest) (some tbl) = none := by
  rw [parseExpanded_nsu (escNsu u) rest tbl (escNsu_no_semicolon u), unescNsu_escNsu, hk]

/-- texts without escape sequences are read as before the repair: a URI without '%' names itself -/
theorem C04_nsu_plain_unchanged (u : Text) (h : 37 ∉ u) : unescNsu u = u := by
  induction u with
  | nil => rfl
  | cons c r ih =>
    have hc : c ≠ 37 := fun e => h (by simp [e])
    have hr : 37 ∉ r := fun e => h (List.mem_cons_of_mem _ e)
    simp [unescNsu, hc, ih hr]

def txt (s : String) : Text := s.toUTF8.toList.map (·.toNat)

/-- the former finding C04.nsu-uri-semicolon as a regression: with the table
    ["urn:a", "urn:a;b"] the URI "urn:a;b" is named by `nsu=urn:a%3Bb;i=1` (and `%3b`), "a%b" by
    `a%25b`, `%253B` is the literal text "%3B"; the raw text `nsu=urn:a;b;i=1` keeps its
    grammatical reading (URI "urn:a", bare String id "b;i=1") -/
theorem C04_former_nsu_witness :
    (parseExpanded (txt "nsu=urn:a%3Bb;i=1") (some [txt "urn:a", txt "urn:a;b"])).map nodeKey = some (1, Ident.num 1) ∧
    (parseExpanded (txt "nsu=urn:a%3bb;i=1") (some [txt "urn:a", txt "urn:a;b"])).map nodeKey = some (1, Ident.num 1) ∧
    (parseExpanded (txt "nsu=a%25b;i=1") (some [txt "x", txt "y", txt "a%b"])).map nodeKey = some (2, Ident.num 1) ∧
    (parseExpanded (txt "nsu=a%253Bb;i=1") (some [txt "a;b", txt "a%3Bb"])).map nodeKey = some (1, Ident.num 1) ∧
    (parseExpanded (txt "nsu=urn:a;b;i=1") (some [txt "urn:a", txt "urn:a;b"])).map nodeKey
      = some (0, Ident.str (txt "b;i=1")) := by
  decide +kernel

/-! ### non-vacuity -/

example : toString (newNumeric 2 300) = some (txt "ns=2;i=300") := by decide +kernel
example : parseNodeID (txt "ns=2;i=300") = some (newFourByte 2 300) := by decide +kernel
-- the boundary of the four-byte encoding: the parser tests `id < math.MaxUint16`, so 65535 is a Numeric id
example : parseNodeID (txt "i=65535") = some (newNumeric 0 65535) := by decide +kernel
example : parseNodeID (txt "ns=5;s=a;b") = some (newString 5 (txt "a;b")) := by decide +kernel
example : toString (newByteString 0 [1, 2, 3]) = some (txt "b=AQID") := by decide +kernel
example : NodeIdText.toString (⟨4, 1, 0, [], some [0x11, 0x11, 0xAA, 0xAA, 0x22, 0xBB, 0x33, 0xCC, 0x44, 0xDD, 0x55, 0xEE, 0x77, 0xFF, 0x99, 0x00]⟩ : NodeID)
    = some (txt "ns=1;g=1111AAAA-22BB-33CC-44DD-55EE77FF9900") := by decide +kernel
example : equal (newFourByte 0 5) (newTwoByte 5) = true ∧ equal (newString 0 (txt "5")) (newTwoByte 5) = false := by
  decide +kernel

end Opcua.Props.C04
