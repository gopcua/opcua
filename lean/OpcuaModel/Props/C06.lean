import OpcuaModel.Model.Limits
import OpcuaModel.Props.C38
import OpcuaModel.Gen.Handshake
/-
  C06 — negotiated transport limits are honoured in both directions.

  `Limits.negotiate` / `wireChunks` / `send` / `receive` model the code as it is;
  `Limits.Honoured hello ack a m sender n` is the property for one message of `n`
  body bytes sent by `sender` under policy row `a` and mode `m`:
    (1) chunkFits  every chunk on the wire ≤ the receive buffer the peer advertised,
    (2) accepts    the peer's chunk-size check passes for every size the sender may use,
    (3) refuses    a message over the peer's advertised MaxMessageSize / MaxChunkCount is
                   refused by the sender;
  `LegalAccepted` is (2') "a message within the advertised limits (0 = none) is accepted".

  At full strength the property is FALSE for the unchanged code.  Proved here:
  `C06_partial` / `C06_legal_partial` under explicit guards (all four clauses; (2') for
  requests without any guard since the zero-limit repair,
  every policy row, every mode, every message size), and a counterexample theorem
  for every recorded finding (five for six: the two send-limit findings share
  one) — most of them for a whole family of configurations, each also at its witness.
-/
namespace Opcua.Props.C06
open Opcua Opcua.Limits

/-- the model's negotiation IS the function extracted from the running code: `Gen.hsClient…` /
    `Gen.hsServer…` are inferred by the generator from real HEL/ACK exchanges over loopback (field
    copy / default for zero / minimum) and regenerated on every run.  A change of `Handshake` or
    `srvhandshake` changes them, and this theorem — on which the reading of every other theorem
    about `negotiate` rests — no longer holds.  `h0`: the generated receive buffer is `min hello.rcv ack.rcv`
    and the model's an `if` that keeps `ack.rcv` for `hello.rcv = 0`; they differ only there, and a client with
    receive buffer 0 cannot read the Acknowledge at all. -/
theorem C06_negotiate_generated (hello ack : Ack) (h0 : hello.rcv ≠ 0) :
    negotiate hello ack =
      { client := ⟨Gen.hsClientRcv hello.rcv hello.snd hello.maxMsg hello.maxChunks ack.rcv ack.snd ack.maxMsg ack.maxChunks,
                   Gen.hsClientSnd hello.rcv hello.snd hello.maxMsg hello.maxChunks ack.rcv ack.snd ack.maxMsg ack.maxChunks,
                   Gen.hsClientMaxMsg hello.rcv hello.snd hello.maxMsg hello.maxChunks ack.rcv ack.snd ack.maxMsg ack.maxChunks,
                   Gen.hsClientMaxChunks hello.rcv hello.snd hello.maxMsg hello.maxChunks ack.rcv ack.snd ack.maxMsg ack.maxChunks⟩
        server := ⟨Gen.hsServerRcv hello.rcv hello.snd hello.maxMsg hello.maxChunks ack.rcv ack.snd ack.maxMsg ack.maxChunks,
                   Gen.hsServerSnd hello.rcv hello.snd hello.maxMsg hello.maxChunks ack.rcv ack.snd ack.maxMsg ack.maxChunks,
                   Gen.hsServerMaxMsg hello.rcv hello.snd hello.maxMsg hello.maxChunks ack.rcv ack.snd ack.maxMsg ack.maxChunks,
                   Gen.hsServerMaxChunks hello.rcv hello.snd hello.maxMsg hello.maxChunks ack.rcv ack.snd ack.maxMsg ack.maxChunks⟩ } := by
  have hr : (if hello.rcv ≠ 0 ∧ ack.rcv > hello.rcv then hello.rcv else ack.rcv) = min hello.rcv ack.rcv := by
    split <;> omega
  simp only [negotiate, clientAdopt, hr]
  rfl

/-- … and reproduces every handshake the generator observed on the real code (sentinel values,
    zeros, the witnesses' configurations, random configurations of the domain) -/
theorem C06_handshake_rows : ∀ row ∈ Gen.handshakeRows, rowAgrees row = true := by decide +kernel

/-- the client validates and bounds what it adopts (the repair of C13's ack-small-rcvbuf /
    ack-huge-rcvbuf): an Acknowledge with a buffer below the protocol minimum 8192 is refused, every
    Acknowledge of the domain is accepted, and the receive limit the client then works with — what
    `Receive` allocates per frame — is never above the Acknowledge's value nor above the receive
    buffer of its own (non-zero) Hello -/
theorem C06_client_adopts_bounded (hello ack : Ack) :
    (handshakeAccepts ack = true ↔ 8192 ≤ ack.rcv ∧ 8192 ≤ ack.snd) ∧
    (inDomain ack → handshakeAccepts ack = true) ∧
    (viewOf hello ack .client).rcv ≤ ack.rcv ∧
    (hello.rcv ≠ 0 → (viewOf hello ack .client).rcv ≤ hello.rcv) ∧
    (handshakeAccepts ack = true → 8192 ≤ hello.rcv → 8192 ≤ (viewOf hello ack .client).rcv) := by
  have hc := clientAdopt_rcv hello ack
  have hacc : handshakeAccepts ack = true ↔ 8192 ≤ ack.rcv ∧ 8192 ≤ ack.snd := decide_eq_true_iff
  simp only [viewOf, negotiate]
  refine ⟨hacc, fun h => hacc.2 ⟨h.1, h.2.2.1⟩, by omega, by omega, fun h => ?_⟩
  have := hacc.1 h; omega

/-- whatever the policy, mode and message: every chunk a side writes fits the value it
    took for its own send buffer (C38's statement applied to every chunk of the message) -/
theorem C06_chunk_le_own_send_buffer (a : AlgoParams) (ha : a ∈ Gen.symmetricRows) (m : Mode) (v : Ack)
    (h1 : 8192 ≤ v.snd) (h2 : v.snd < 4294967296) (n : Nat) :
    ∀ w ∈ wireChunks a m v n, w ≤ (v.snd : Int) := by
  simp only [wireChunks, List.forall_mem_map]
  intro b hb
  have hrow := C38.C38_rows_ok a ha
  have hr : 0 < Gen.setMaximumBodySize a v.snd ∧ _ := C38.C38_maxBody_range a hrow v.snd (by omega) (by omega)
  have hle := mem_chunkBodies hb (by unfold maxBodyOf; omega)
  exact C38.C38_fits a hrow m v.snd (by omega) (by omega) _ (by omega)
    (by unfold maxBodyOf at hle; unfold C38.maxBody; omega)

/-- the send paths never refuse anything: clause (3) can only hold vacuously -/
theorem C06_never_refuses (a : AlgoParams) (m : Mode) (v : Ack) (n : Nat) :
    send a m v n ≠ .refused := by
  simp [send]

/-- C06 under explicit guards: the server's send buffer does not exceed its own receive
    buffer nor the one the client advertised (then the mixed-up directions are harmless),
    and the message is within the peer's limits (then there is nothing to refuse).
    Every policy row, mode, sender and message size; buffers from 8192 to 2^32-1. -/
theorem C06_partial (hello ack : Ack) (a : AlgoParams) (ha : a ∈ Gen.symmetricRows) (m : Mode)
    (sender : Side) (n : Nat)
    (hd : inDomain ack)
    (g1 : ack.snd ≤ ack.rcv) (g2 : ack.snd ≤ hello.rcv)
    (g3 : ¬ exceeds (advertised hello ack sender.peer) n (chunkCount a (viewOf hello ack sender) n)) :
    Honoured hello ack a m sender n := by
  refine ⟨fun w hw => ?_, fun w hw => Nat.le_trans hw ?_, fun h => absurd h g3⟩
  · rw [wireChunks_viewOf] at hw
    have hadv : ack.snd ≤ (advertised hello ack sender.peer).rcv := by cases sender <;> assumption
    exact Int.le_trans (C06_chunk_le_own_send_buffer a ha m ack hd.2.2.1 hd.2.2.2 n w hw) (Int.ofNat_le.2 hadv)
  · cases sender
    · exact Nat.min_le_right _ _
    · exact (maySend_le_client_rcv hello ack).2 (Nat.le_trans (Nat.min_le_left _ _) g1)

/-- (2'): a message within the limits the receiver advertised (0 = no limit), in chunks the
    sender may use, is accepted.  For requests (client sends) there is NO guard: the
    server's receive path honours exactly what it advertised, 0 included.  For responses the
    guard remains that the client advertised limits which are not above the ones it adopted
    from the Acknowledge, and a receive buffer not above the server's (finding
    client-limits-from-ack / client-recv-direction otherwise). -/
theorem C06_legal_partial (hello ack : Ack) (a : AlgoParams) (m : Mode) (sender : Side) (n : Nat)
    (g3 : sender = .server → hello.maxMsg ≠ 0 ∧ hello.maxMsg ≤ (clientAdopt hello ack).maxMsg ∧
                             hello.maxChunks ≠ 0 ∧ hello.maxChunks ≤ (clientAdopt hello ack).maxChunks)
    (g4 : sender = .server → hello.rcv ≤ ack.rcv) :
    LegalAccepted hello ack a m sender n := by
  intro hw hex
  simp only [wireChunks, List.forall_mem_map] at hw
  cases sender
  · exact receive_chunkBodies_ok a m (adv := ack) (Nat.min_le_right hello.snd ack.rcv)
      (fun h => ⟨h, Nat.le_refl _⟩) (fun h => ⟨h, Nat.le_refl _⟩) hw hex
  · obtain ⟨h1, h2, h3, h4⟩ := g3 rfl
    exact receive_chunkBodies_ok a m (adv := hello)
      ((maySend_le_client_rcv hello ack).2 (Nat.le_trans (Nat.min_le_right _ _) (g4 rfl)))
      (fun _ => ⟨h1, h2⟩) (fun _ => ⟨h3, h4⟩) hw hex

/-- in particular every request within what the server advertised is accepted by the server,
    for every configuration, policy, mode and size — 0 = no limit included (the repaired finding
    zero-limit-server) -/
theorem C06_requests_accepted (hello ack : Ack) (a : AlgoParams) (m : Mode) (n : Nat) :
    LegalAccepted hello ack a m .client n :=
  C06_legal_partial hello ack a m .client n (fun h => by cases h) (fun h => by cases h)

/-- a server that advertises "no limit" (0 / 0) takes a message of any size in any number of chunks
    that fit its buffer (that the channel opens: `C06_zero_limit_witnesses`) -/
theorem C06_zero_is_no_limit (a : AlgoParams) (m : Mode) (ack : Ack) (h0 : ack.maxMsg = 0) (h1 : ack.maxChunks = 0)
    (bodies : List Nat) (hfit : ∀ b ∈ bodies, wireLen a m b ≤ (ack.rcv : Int)) :
    receive a m ack bodies = .ok :=
  receive_ok a m ack bodies hfit (fun h => absurd h1 h) (fun h => absurd h0 h)

/-- the receiver's chunk-count check is lenient by one: the final chunk is not counted, so a message
    of exactly MaxChunkCount + 1 chunks (MaxChunkCount intermediate + 1 final) is accepted … -/
theorem C06_chunk_count_lenient (a : AlgoParams) (m : Mode) (v : Ack) (bodies : List Nat)
    (hlen : bodies.length = v.maxChunks + 1)
    (hfit : ∀ b ∈ bodies, wireLen a m b ≤ (v.rcv : Int)) (hsum : v.maxMsg ≠ 0 → bodies.sum ≤ v.maxMsg) :
    receive a m v bodies = .ok :=
  receive_ok a m v bodies hfit (fun _ => Nat.le_of_eq hlen) hsum

/-- … and MaxChunkCount + 2 chunks or more are refused.  The limit concerned is the receiver's own
    (the one it advertised); accepting one chunk more than announced breaks none of C06's clauses —
    they bind the sender to the limit and the receiver to accept what is within it — so this is a
    documented leniency (relevant for C13's memory bound), not a C06 finding. -/
theorem C06_chunk_count_bound (a : AlgoParams) (m : Mode) (v : Ack) (bodies : List Nat)
    (h0 : v.maxChunks ≠ 0) (hlen : bodies.length ≥ v.maxChunks + 2)
    (hfit : ∀ b ∈ bodies, wireLen a m b ≤ (v.rcv : Int)) :
    receive a m v bodies = .tooManyChunks := by
  rw [receive_of_fit a m v bodies hfit, if_pos ⟨h0, hlen⟩]

/-! ### findings: where the full property fails (None policy, as confirmed over loopback) -/

/-- the largest chunk: a message of exactly one full body is written as a chunk of
    `SendBufSize - 1` bytes (followed by an empty final chunk) -/
theorem C06_none_full_chunk (v : Ack) (h1 : 8192 ≤ v.snd) (h2 : v.snd < 4294967296) :
    wireChunks Gen.symNone .none v (v.snd - 25) = [(v.snd : Int) - 1, 24] := by
  have hpos : 0 < v.snd - 25 := by omega
  simp only [wireChunks, maxBodyOf_none v (by omega) h2, chunkBodies_of_pos hpos, Nat.div_self hpos, Nat.mod_self,
    List.replicate, List.cons_append, List.nil_append, List.map, wireLen_none]
  congr 1
  omega

/-- clause (1) under the None policy, either sender: the full chunk has `ack.snd - 1` bytes whatever
    the receiver advertised -/
theorem not_honoured_none_of_rcv_lt (hello ack : Ack) (sender : Side) (hd : inDomain ack)
    (h : (advertised hello ack sender.peer).rcv + 1 < ack.snd) :
    ¬ Honoured hello ack Gen.symNone .none sender (ack.snd - 25) := by
  intro hh
  have hw := hh.chunkFits ((ack.snd : Int) - 1) (by
    rw [wireChunks_viewOf, C06_none_full_chunk ack hd.2.2.1 hd.2.2.2]; exact List.mem_cons_self)
  omega

/-- FINDING client-send-direction: the client cuts its requests by the server's SEND buffer.
    For every server whose send buffer exceeds its receive buffer by more than one byte
    (any client), clause (1) fails: the client writes a chunk of `ack.snd - 1 > ack.rcv` bytes. -/
theorem C06_finding_client_send_direction (hello ack : Ack) (hd : inDomain ack) (h : ack.rcv + 1 < ack.snd) :
    ¬ Honoured hello ack Gen.symNone .none .client (ack.snd - 25) :=
  not_honoured_none_of_rcv_lt hello ack .client hd h

/-- … at the recorded witness: server rcv 8192 / snd 65535, default client, request body 20000:
    one chunk of 20024 bytes -/
theorem C06_witness_client_send_direction :
    wireChunks Gen.symNone .none (viewOf defaultClientAck ⟨8192, 65535, 2097152, 512⟩ .client) 20000 = [20024] ∧
    receive Gen.symNone .none (viewOf defaultClientAck ⟨8192, 65535, 2097152, 512⟩ .server) [20000] = .chunkTooLarge := by
  decide

/-- FINDING client-recv-direction: the client checks incoming chunks against the server's
    RECEIVE buffer.  Whenever that is below what the server may send (min of its send buffer
    and the client's advertised receive buffer), clause (2) fails for the client as receiver. -/
theorem C06_finding_client_recv_direction (hello ack : Ack) (a : AlgoParams) (m : Mode) (n : Nat)
    (h : ack.rcv < min ack.snd hello.rcv) :
    ¬ Honoured hello ack a m .server n := fun hh =>
  Nat.not_le_of_lt h ((maySend_le_client_rcv hello ack).1 (hh.accepts _ (Nat.le_refl _)))

/-- … at the witness: the server's response chunk of 20024 bytes is legal (≤ 65535 both ways),
    the client refuses it -/
theorem C06_witness_client_recv_direction :
    (20024 : Nat) ≤ maySend (⟨8192, 65535, 2097152, 512⟩ : Ack) defaultClientAck ∧
    transfer Gen.symNone .none (viewOf defaultClientAck ⟨8192, 65535, 2097152, 512⟩ .server)
      (viewOf defaultClientAck ⟨8192, 65535, 2097152, 512⟩ .client) 20000 = ([20024], .chunkTooLarge) := by
  decide

/-- FINDING server-ignores-hello-rcv: the server cuts its responses by its own send buffer
    and never looks at the Hello.  For every client that advertises a receive buffer more
    than one byte below the server's send buffer, clause (1) fails for the server as sender. -/
theorem C06_finding_server_ignores_hello_rcv (hello ack : Ack) (hd : inDomain ack) (h : hello.rcv + 1 < ack.snd) :
    ¬ Honoured hello ack Gen.symNone .none .server (ack.snd - 25) :=
  not_honoured_none_of_rcv_lt hello ack .server hd h

/-- … at the witness: client advertises rcv 8192, default server, response body 20000: the server
    writes one chunk of 20024 bytes; the client (whose receive limit is bounded by its own
    Hello) refuses it and the connection is lost -/
theorem C06_witness_server_ignores_hello_rcv :
    transfer Gen.symNone .none (viewOf ⟨8192, 65535, 0, 0⟩ defaultServerAck .server)
      (viewOf ⟨8192, 65535, 0, 0⟩ defaultServerAck .client) 20000 = ([20024], .chunkTooLarge) := by
  decide

/-- FINDING send-limit-client / send-limit-server: whenever the message is over a limit the
    peer advertised, clause (3) fails — for every configuration, policy, mode and sender -/
theorem C06_finding_send_limit (hello ack : Ack) (a : AlgoParams) (m : Mode) (sender : Side) (n : Nat)
    (h : exceeds (advertised hello ack sender.peer) n (chunkCount a (viewOf hello ack sender) n)) :
    ¬ Honoured hello ack a m sender n :=
  fun hh => C06_never_refuses a m _ n (hh.refuses h)

/-- … at the witnesses: server MaxMessageSize 10000, request of 20000 bytes written in full
    and refused only by the server's receive path; server MaxChunkCount 2, request in 4 chunks;
    client MaxMessageSize 10000, response of 20000 bytes written and even accepted -/
theorem C06_witness_send_limit :
    (exceeds (⟨65535, 65535, 10000, 512⟩ : Ack) 20000 1 ∧
      transfer Gen.symNone .none (viewOf defaultClientAck ⟨65535, 65535, 10000, 512⟩ .client)
        (viewOf defaultClientAck ⟨65535, 65535, 10000, 512⟩ .server) 20000 = ([20024], .messageTooLarge)) ∧
    (exceeds (⟨8192, 8192, 2097152, 2⟩ : Ack) 30000 4 ∧
      transfer Gen.symNone .none (viewOf defaultClientAck ⟨8192, 8192, 2097152, 2⟩ .client)
        (viewOf defaultClientAck ⟨8192, 8192, 2097152, 2⟩ .server) 30000 = ([8191, 8191, 8191, 5523], .tooManyChunks)) ∧
    (exceeds (⟨65535, 65535, 10000, 0⟩ : Ack) 20000 1 ∧
      transfer Gen.symNone .none (viewOf ⟨65535, 65535, 10000, 0⟩ defaultServerAck .server)
        (viewOf ⟨65535, 65535, 10000, 0⟩ defaultServerAck .client) 20000 = ([20024], .ok)) := by
  decide

/-- regression witnesses of the repaired zero-limit defect: with MaxMessageSize 0 the OPN request
    is taken and the channel opens; with MaxChunkCount 0 a three-chunk request is accepted -/
theorem C06_zero_limit_witnesses (hello : Ack) :
    openChannel (negotiate defaultClientAck ⟨65535, 65535, 0, 512⟩) = .ok ∧
    receive Gen.symNone .none (viewOf hello ⟨8192, 8192, 2097152, 0⟩ .server) [8167, 8167, 3666] = .ok := by
  refine ⟨?_, ?_⟩
  · decide +kernel
  · show receive Gen.symNone .none ⟨8192, 8192, 2097152, 0⟩ [8167, 8167, 3666] = _
    decide +kernel

/-- FINDING client-limits-from-ack: the client applies the limits of the Acknowledge (the
    server's limits for REQUESTS) to the responses it receives, not what it advertised.
    Witness: client advertises no limit, server MaxMessageSize 10000, response of 20000 bytes
    is legal and refused -/
theorem C06_finding_client_limits_from_ack :
    ¬ LegalAccepted defaultClientAck ⟨65535, 65535, 10000, 512⟩ Gen.symNone .none .server 20000 := by
  intro h
  have := h (by decide) (by decide)
  revert this
  decide

/-! non-vacuity of the guarded theorems: an asymmetric-but-harmless and a symmetric configuration -/
example : Honoured ⟨65535, 65535, 0, 0⟩ ⟨65535, 8192, 2097152, 512⟩ Gen.symBasic256Sha256 .signAndEncrypt .client 500000 :=
  C06_partial _ _ _ (by simp [Gen.symmetricRows]) _ _ _ (by decide) (by decide) (by decide) (by decide)
example : LegalAccepted ⟨65535, 65535, 100000, 10⟩ ⟨65535, 65535, 0, 0⟩ Gen.symNone .none .server 90000 :=
  C06_legal_partial _ _ _ _ _ _ (by intro _; decide) (by intro _; decide)

end Opcua.Props.C06
