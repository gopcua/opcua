import OpcuaModel.Model.CfgAliasFacts
import OpcuaModel.Base.Lists
/-
  C23 — client options affect only the client they are applied to.

  `Model/CfgAlias.lean` is the heap model; `Gen/ConfigFacts.lean` carries, from
  the current source: the alias facts (`shared`: which objects of the default
  configuration are package-level objects), the write footprint of every
  `Option` constructor of config.go (`options`) and the pristine defaults.

  `Isolated F prog`: after any sequence of client constructions, every client
  reads at every configuration path what it would read had it been the only
  client ever built.  Since the repair of `DefaultDialer()` (it copies
  `*uacp.DefaultClientACK` instead of storing the pointer; finding
  C23.shared-default-client-ack, fixed) the regenerated alias facts are empty
  and no guard on the alias facts or on the options used remains: `C23_isolation`
  for every program of assignment steps that installs no object of an Option
  value (`valueFree`), `C23_isolation_option_values` for every program of option
  applications (`hraw` only asks that they are written as `App` says, every
  allocation marked `fresh`; which allocations are one object per Option value is
  decided by the generated `captured` facts).  The general theorems (any alias facts, dynamic and static
  guard) say what must hold should a shared default reappear,
  and `C23_model_detects_sharing` shows that the model is not blind to one.
-/
namespace Opcua.Props.C23
open Opcua Opcua.CfgAlias

/-- ISOLATION under the dynamic guard, for any alias facts and every program
    (any number of clients, any options, any values, caller-supplied objects) -/
theorem C23_isolation_partial (F : Facts) (prog : List (List Step)) (hg : NoGlobalWrite F prog) :
    Isolated F prog :=
  fun init _ _ hk p => client_isolated F prog emptyHeap _ hk (fun j _ st hj => hg j st hj) init p

/-- if the default constructors share nothing, every program in which no option installs an
    object belonging to an Option value is isolated -/
theorem C23_isolation_if_defaults_private (F : Facts) (hF : F.shared = []) (prog : List (List Step))
    (hv : ∀ steps ∈ prog, valueFree steps = true) :
    Isolated F prog :=
  C23_isolation_partial F prog (noGlobalWrite_of_no_shared F hF prog hv)

/-- ISOLATION under the static guard: any program written with options whose
    generated footprint neither lies inside nor replaces a shared object is
    isolated (uses must stay inside the generated footprints) -/
theorem C23_isolation_by_option_names_partial (F : Facts) (opts : Footprints) (prog : List (List OptUse))
    (h : ∀ uses ∈ prog, ∀ u ∈ uses,
      Conforms opts u ∧ u.name ∉ sharedWriters F opts ∧ u.name ∉ sharedReplacers F opts ∧
      valueFree u.steps = true) :
    Isolated F (prog.map flatten) := by
  apply C23_isolation_partial
  intro k steps hk
  obtain ⟨uses, hu, rfl⟩ : ∃ uses, prog[k]? = some uses ∧ flatten uses = steps := by
    simpa [List.getElem?_map] using hk
  have h := h uses (List.mem_of_getElem? hu)
  refine written_not_glob_nil F k _ ?_ ?_
  · rw [flatten, valueFree_flatMap, List.all_eq_true]
    exact fun u hu => (h u hu).2.2.2
  · intro p v hm
    obtain ⟨u, hu, hm⟩ := List.mem_flatMap.mp hm
    obtain ⟨⟨fp, hfp, hsteps⟩, hnw, hnr, _⟩ := h u hu
    obtain ⟨e, he, hep⟩ := hsteps _ hm
    have hmem := Lists.mem_of_lookup_eq_some hfp
    -- an option that is not among those a flag selects has a footprint without the flag
    have hclear (flag : List (Path × Bool) → Bool)
        (hn : u.name ∉ (opts.filter fun o => flag o.2).map (·.1)) : flag fp = false := by
      cases hw : flag fp with
      | false => rfl
      | true => exact absurd (List.mem_map.mpr ⟨_, List.mem_filter.mpr ⟨hmem, hw⟩, rfl⟩) hn
    exact footprint_avoids_shared F (hclear _ hnw) (hclear _ hnr) he hep

/-- the alias facts of the current source: the default constructors share
    NOTHING between clients (evaluation of newConfig() twice + go/ast), so no
    option's footprint can lie inside or replace a shared object; all 35 options
    of config.go are enumerated -/
theorem C23_defaults_private :
    Gen.Config.shared = [] ∧
    sharedWriters facts Gen.Config.options = [] ∧
    sharedReplacers facts Gen.Config.options = [] ∧
    Gen.Config.options.length = 35 := by
  decide +kernel

/-- no option constructor of config.go allocates outside the closure it returns: every
    application of an Option value installs objects of its own (go/ast over all 35 constructors) -/
theorem C23_no_option_captures_an_allocation : Gen.Config.captured = [] := by decide

/-- ISOLATION for the current source, at the level of steps: every program in which no step
    installs an object of an Option value — any number of clients, any assignments in any order
    with any values, caller-supplied objects — leaves every client reading, at every
    configuration path, exactly what its own options give on pristine defaults -/
theorem C23_isolation (prog : List (List Step)) (hv : ∀ steps ∈ prog, valueFree steps = true) :
    Isolated facts prog :=
  C23_isolation_if_defaults_private facts C23_defaults_private.1 prog hv

/-- ISOLATION, full strength, at the level of Option VALUES: every program of applications —
    any Option value may be applied to any number of clients (a slice of base options), any
    client may get further applications — is isolated: what an application installs is decided
    by the generated allocation facts, and they say "its own objects", for all 35 options -/
theorem C23_isolation_option_values (prog : List (List App))
    (hraw : ∀ apps ∈ prog, ∀ a ∈ apps, valueFree a.steps = true) :
    Isolated facts (prog.map fun apps => apps.flatMap (realise Gen.Config.captured)) := by
  apply C23_isolation
  intro steps hs
  obtain ⟨apps, happs, rfl⟩ := List.mem_map.mp hs
  rw [valueFree_flatMap, List.all_eq_true]
  intro a ha
  rw [C23_no_option_captures_an_allocation, realise_nil]
  exact hraw apps happs a ha

/-- the model is not blind to it: were `AuthUsername` to build its token when the Option value
    is made (facts `[("AuthUsername", [session.UserIdentityToken])]`), one value applied to two
    clients followed by `AuthPolicyID` on the second changes what the first reads -/
theorem C23_model_detects_captured_allocation :
    let capt : List (String × List Path) := [("AuthUsername", [["session", "UserIdentityToken"]])]
    let tok : Path := ["session", "UserIdentityToken"]
    let pid : Path := ["session", "UserIdentityToken", "PolicyID"]
    let base : App := ⟨"AuthUsername", 7, [.redirect tok .fresh, .write pid ""]⟩
    let prog : List (List App) := [[base], [base, ⟨"AuthPolicyID", 8, [.write pid "p2"]⟩]]
    let steps := prog.map fun apps => apps.flatMap (realise capt)
    effective facts pristine (runClients facts 0 emptyHeap steps) 0 (steps.getD 0 []) pid = "p2" ∧
    effective facts pristine (runSteps facts 0 emptyHeap [] (steps.getD 0 [])).1 0 (steps.getD 0 []) pid = "" := by
  decide +kernel

/-- `Dialer(d)` with an object of the caller's own: everything assigned below
    `cfg.dialer` afterwards lands in the caller's object, never in the package default -/
theorem C23_dialer_option_is_private (F : Facts) (k u : Nat) (ws : List Step)
    (hws : ∀ w ∈ ws, strictPrefix ["dialer"] (stepPath w) = true) (hvf : valueFree ws = true) :
    ∀ c ∈ cellsWritten F k [] (.redirect ["dialer"] (.user u) :: ws), isGlob c.1 = false := by
  refine written_not_glob F k ws [(["dialer"], .user u)] (redirValueFree_cons rfl redirValueFree_nil) hvf ?_
  intro p v hm
  exact Or.inl ⟨_, List.mem_cons_self, hws _ hm⟩

/-! ### the former finding (C23.shared-default-client-ack, fixed) as a regression -/

def pMaxMessageSize : Path := ["dialer", "ClientACK", "MaxMessageSize"]
def pReceiveBufSize : Path := ["dialer", "ClientACK", "ReceiveBufSize"]

/-- `NewClient(url, MaxMessageSize(1234), ReceiveBufferSize(9999))`, then `NewClient(url)` -/
def witness₁ : List (List Step) := [[.write pMaxMessageSize "1234", .write pReceiveBufSize "9999"], []]

/-- `NewClient(url)`, then `NewClient(url, MaxMessageSize(7))` -/
def witness₂ : List (List Step) := [[], [.write pMaxMessageSize "7"]]

/-- the witnesses of the repaired defect: the later client now reads the pristine
    defaults, the existing client keeps its configuration, the configured client its own values -/
theorem C23_former_witnesses_isolated :
    effective facts pristine (runClients facts 0 emptyHeap witness₁) 1 [] pMaxMessageSize = "0" ∧
    effective facts pristine (runClients facts 0 emptyHeap witness₁) 1 [] pReceiveBufSize = "65535" ∧
    effective facts pristine (runClients facts 0 emptyHeap witness₁) 0 (witness₁.getD 0 []) pMaxMessageSize = "1234" ∧
    effective facts pristine (runClients facts 0 emptyHeap witness₂) 0 [] pMaxMessageSize = "0" := by
  decide +kernel

/-- the facts as they were before the repair -/
def factsBeforeRepair : Facts := ⟨[(["dialer", "ClientACK"], "uacp.DefaultClientACK")]⟩

/-- the model is not blind: under the facts of the unrepaired source the same
    programs are NOT isolated (so `Isolated` is not vacuously true, and a shared
    default reappearing in the regenerated facts breaks `C23_defaults_private`) -/
theorem C23_model_detects_sharing :
    ¬ Isolated factsBeforeRepair witness₁ ∧ ¬ Isolated factsBeforeRepair witness₂ ∧
    ¬ NoGlobalWrite factsBeforeRepair witness₁ := by
  refine ⟨?_, ?_, ?_⟩
  · intro h
    have h1 := h (fun _ => "0") 1 [] (by decide) pMaxMessageSize
    revert h1; decide +kernel
  · intro h
    have h1 := h (fun _ => "0") 0 [] (by decide) pMaxMessageSize
    revert h1; decide +kernel
  · intro h
    have := h 0 _ rfl (resolve factsBeforeRepair 0 [] pMaxMessageSize) (by simp [cellsWritten])
    revert this
    decide +kernel

/-! ### non-vacuity: a program the partial theorem covers -/

example : NoGlobalWrite facts
    [[.write ["sechan", "RequestTimeout"] "5", .redirect ["dialer"] (.user 0),
      .write ["dialer", "ClientACK", "MaxMessageSize"] "1"], [.write ["session", "SessionName"] "x"]] := by
  intro k steps hk c hc
  match k, hk with
  | 0, hk => cases hk; revert c; decide +kernel
  | 1, hk => cases hk; revert c; decide +kernel
  | k + 2, hk => simp at hk

end Opcua.Props.C23
