import OpcuaModel.Model.PubLoop
import OpcuaModel.Model.PubLoopLemmas
import OpcuaModel.Gen.SubsFacts
/-
  C27 — subscription API calls and the publish loop never deadlock.

  The LTS of `Model/PubLoop.lean`: publish loop, Subscribe, ForgetSubscription (for a
  registered id and for an id that is gone — a repeated Cancel), the reconnect code of
  Client.monitor, the two signal channels with the capacities read from NewClient, and
  the write lock subMux.  `canStep` = some thread or the environment (publish
  response, timeout) can move; `atRest` = every call returned and the loop waits paused.

  The full statement is false on the unchanged code (three machine-checked deadlock
  traces); it is proved under the guard "at most one thread besides the loop sends a
  pause signal" for any number of Subscribe calls.
-/
namespace Opcua.Props.C27
open Opcua Opcua.PubLoop

/-! ### tie to the source: generated facts -/

/-- the facts the LTS is built on, as read from client.go / client_sub.go: capacities of
    pausech / resumech, the pause token queued by NewClient, the three send sites
    (Subscribe sends on resumech outside a select, i.e. without ctx), forget pauses when
    the registry is empty while ForgetSubscription holds the lock, and the loop pauses
    itself when publish() fails -/
theorem C27_gen_facts :
    pauseCap = 2 ∧ resumeCap = 2 ∧ Gen.Subs.newClientPauses = 1 ∧ Gen.Subs.monitorPauses = 1 ∧
    Gen.Subs.sends = [("Subscribe", "resumech"), ("pauseSubscriptions", "pausech"), ("resumeSubscriptions", "resumech")] ∧
    Gen.Subs.forgetPauseCond = "len(c.subs) == 0" ∧
    Gen.Subs.forgetCalls = ["c.subMux.Lock", "c.forgetSubscription_NeedsSubMuxLock", "c.subMux.Unlock"] ∧
    Gen.Subs.loopSelfPause = true := ⟨rfl, rfl, rfl, rfl, rfl, rfl, rfl, rfl⟩

/-! ### the deadlocks -/

/-- FINDING (C27.self-pause-full).  One subscription; while a PublishRequest is
    outstanding the application cancels it twice (the second Cancel finds the registry
    empty and pauses again): two tokens sit in pausech.  The publish then fails
    (BadNoSubscription, EOF, …) and the loop signals pause *to itself* on the full
    channel: it blocks for good, nobody else reads pausech. -/
theorem C27_finding_self_pause_full :
    ∃ dead, run (init 1 1 1 0 0 0)
        [.selTakePause, .subSendResume, .subRegister, .pausedTakeResume, .selDefault, .pubStart,
         .fgLock, .fgSendPause, .fgStaleLock, .fgSendPause, .respErr] = some dead ∧
      dead.loop = .selfPause ∧ dead.pause = pauseCap ∧ canStep dead = false ∧ atRest dead = false := by
  refine ⟨_, rfl, ?_⟩
  decide

/-- FINDING (C27.forget-blocks-holding-submux).  A third forget while the publish is
    still outstanding blocks in `pauseSubscriptions` *holding subMux*; when the response
    arrives the loop blocks on `subMux.Lock()`: the API call and the loop wait for each
    other. -/
theorem C27_finding_forget_holds_mux :
    ∃ dead, run (init 1 1 2 0 0 0)
        [.selTakePause, .subSendResume, .subRegister, .pausedTakeResume, .selDefault, .pubStart,
         .fgLock, .fgSendPause, .fgStaleLock, .fgSendPause, .fgStaleLock, .respOk] = some dead ∧
      dead.loop = .wantLock ∧ dead.mux = .forgetSending ∧ canStep dead = false ∧ atRest dead = false := by
  refine ⟨_, rfl, ?_⟩
  decide

/-- the same wedge also stops the reconnect: Client.monitor blocks in its own
    `pauseSubscriptions` and never reaches the reconnect actions -/
theorem C27_finding_reconnect_blocked :
    ∃ dead, run (init 1 1 1 0 1 0)
        [.selTakePause, .subSendResume, .subRegister, .pausedTakeResume, .selDefault, .pubStart,
         .fgLock, .fgSendPause, .fgStaleLock, .fgSendPause, .respErr] = some dead ∧
      dead.monPause = 1 ∧ canStep dead = false ∧ atRest dead = false := by
  refine ⟨_, rfl, ?_⟩
  decide

/-- hence the unguarded statement is false -/
theorem C27_no_deadlock_fails :
    ¬ ∀ s, Reachable (init 1 1 1 0 0 0) s → canStep s = true ∨ atRest s = true := by
  intro h
  obtain ⟨dead, hrun, _, _, hc, ha⟩ := C27_finding_self_pause_full
  have := h dead (run_reachable .refl hrun)
  simp [hc, ha] at this

/-! ### the guarded statement -/

/-- PARTIAL.  If at most one thread besides the loop ever sends a pause signal (one
    ForgetSubscription / Cancel, or one reconnect round) — with any number of Subscribe
    calls, any registry size, every interleaving and every sequence of publish outcomes —
    then in every reachable state some thread or the environment can move, or everything
    is at rest. -/
theorem C27_no_deadlock_partial (subscribes forgets stale staleD reconnects nsubs : Nat)
    (hg : forgets + stale + staleD + reconnects ≤ 1) (s : St)
    (hr : Reachable (init subscribes forgets stale staleD reconnects nsubs) s) :
    canStep s = true ∨ atRest s = true :=
  progress (inv_reachable (inv_init subscribes forgets stale staleD reconnects nsubs hg) hr)

/-- under the same guard no send on pausech ever finds the channel full: the queue
    never holds more than `pauseCap` tokens and a sender always has room -/
theorem C27_pause_never_full (subscribes forgets stale staleD reconnects nsubs : Nat)
    (hg : forgets + stale + staleD + reconnects ≤ 1) (s : St)
    (hr : Reachable (init subscribes forgets stale staleD reconnects nsubs) s) :
    s.pause ≤ pauseCap ∧ (s.loop = .selfPause → s.pause < pauseCap) ∧
    (0 < pausers s → s.pause < pauseCap) := by
  have hi := inv_reachable (inv_init subscribes forgets stale staleD reconnects nsubs hg) hr
  exact ⟨hi.pause_le, hi.room_selfPause, hi.room_pauser⟩

/-- the loop never holds subMux while it hands a notification to the application
    (`notifySubscription` runs after `Unlock`): an API call made by the consumer of the
    notification channel is not blocked by the delivery it is about to receive -/
theorem C27_notify_without_lock (s s' : St) (h : step s .handleD = some s') :
    s'.loop = .notifying ∧ s'.mux = .free := by
  simp only [step, Option.ite_none_right_eq_some, Option.some.injEq] at h
  obtain ⟨hg, rfl⟩ := h
  exact ⟨rfl, hg.2⟩

/-- the error path never waits for the application: the fan-out of an error to every
    subscription (`notifyAllSubscriptionsOfError` / `notifySubscriptionOfError`) starts one
    goroutine per subscription and returns, so it is no state of the LTS; the `respErr` step takes
    the loop straight to its self-pause and leaves the lock and both channels as they were -/
theorem C27_error_fanout_without_lock (s s' : St) (h : step s .respErr = some s') :
    s'.loop = .selfPause ∧ s'.mux = s.mux ∧ s'.pause = s.pause ∧ s'.resume = s.resume := by
  simp only [step, Option.ite_none_right_eq_some, Option.some.injEq] at h
  obtain ⟨_, rfl⟩ := h
  exact ⟨rfl, rfl, rfl, rfl⟩

/-- a ForgetSubscription / Cancel called with a context that has a deadline never wedges the
    client: while it holds subMux waiting for room in pausech, giving up at the deadline
    is always possible, after which the lock is free again.  (Compare
    `C27_finding_forget_holds_mux`: with a context that never ends the same state is dead.) -/
theorem C27_deadline_forget_gives_up (s : St) (h : s.mux = .forgetSendingD) :
    canStep s = true ∧ ∃ s', step s .fgGiveUp = some s' ∧ s'.mux = .free ∧ s'.pause = s.pause := by
  refine ⟨canStep_of .fgGiveUp (by simp [step, h]), ?_⟩
  simp [step, h]

/-- the wedge of `C27_finding_forget_holds_mux` with a deadline on the third forget: after
    the deadline the loop handles the response and everything comes to rest -/
example :
    (run (init 1 1 1 1 0 0)
      [.selTakePause, .subSendResume, .subRegister, .pausedTakeResume, .selDefault, .pubStart,
       .fgLock, .fgSendPause, .fgStaleLock, .fgSendPause, .fgStaleDLock, .respOk, .fgGiveUp, .handle,
       .selTakePause, .pausedTakePause]).map (fun s => (atRest s, s.loop)) = some (true, .paused) := by decide

/-! ### lost wake-up: the loop paused although subscriptions are registered -/

/-- FINDING (C27.pause-overtakes-resume).  A select over two ready channels picks at
    random, so a pause token can be taken *after* a resume token that was sent later
    than it.  Cancel the only subscription and subscribe again while a publish is
    outstanding: when the response arrives the loop may read the fresh resume first
    ("ignore since not paused") and the stale pause second — it stays paused with a
    registered subscription and never publishes again. -/
theorem C27_finding_pause_overtakes_resume :
    ∃ s, run (init 2 1 0 0 0 0)
        [.selTakePause, .subSendResume, .subRegister, .pausedTakeResume, .selDefault, .pubStart,
         .fgLock, .fgSendPause, .subSendResume, .subRegister, .respOk, .handle,
         .selTakeResume, .selTakePause] = some s ∧ stalled s = true ∧ s.nsubs = 1 := by
  refine ⟨_, rfl, ?_⟩
  decide

/-- the same race exists right after `Connect`: the token NewClient queued and the
    resume of the very first Subscribe can be read in the wrong order -/
theorem C27_finding_initial_pause_race :
    ∃ s, run (init 1 0 0 0 0 0) [.subSendResume, .subRegister, .selTakeResume, .selTakePause] = some s ∧
      stalled s = true := by
  refine ⟨_, rfl, ?_⟩
  decide

/-- FINDING (C27.badnosubscription-pauses-for-good).  A publish that fails while a
    subscription is registered and nothing else is going on — the server answers
    BadNoSubscription (a late answer to a request it processed while it had none) — makes
    the loop pause itself; `Client.monitor` skips exactly this error (`continue`), so no
    reconnect and no resume follow: the loop stays paused with a registered subscription. -/
theorem C27_finding_error_pauses_with_subscription :
    ∃ s, run (init 1 0 0 0 0 0)
        [.selTakePause, .subSendResume, .subRegister, .pausedTakeResume, .selDefault, .pubStart,
         .respErr, .selfPause, .selTakePause] = some s ∧ stalled s = true ∧ s.nsubs = 1 := by
  refine ⟨_, rfl, ?_⟩
  decide

/-- what a failing publish does when nothing else is under way (no token queued, no call
    in progress, lock free): whatever the number of registered subscriptions, the only run
    of the loop is self-pause → read the own token → paused, at rest, registry untouched —
    stalled exactly when a subscription is registered. -/
theorem C27_error_pauses (s : St) (hl : s.loop = .inflight) (hp : s.pause = 0) (hr : s.resume = 0)
    (hm : s.mux = .free) (h1 : s.subSend = 0) (h2 : s.subLock = 0) (h3 : s.fgStart = 0) (h4 : s.fgStale = 0)
    (h5 : s.fgStaleD = 0) (h6 : s.monPause = 0) (h7 : s.monResume = 0) :
    ∃ s', run s [.respErr, .selfPause, .selTakePause] = some s' ∧ s'.loop = .paused ∧ atRest s' = true ∧
      s'.nsubs = s.nsubs ∧ (stalled s' = true ↔ 0 < s.nsubs) := by
  have hrest : atRest { s with loop := .paused } = true := by
    simp [atRest, h1, h2, h3, h4, h5, h6, h7, hm, hp, hr]
  refine ⟨{ s with loop := .paused }, ?_, rfl, hrest, rfl, by simp [stalled, hrest]⟩
  simp [run, step, hl, hp]

/-- PARTIAL.  Once the loop has consumed the initial token, with Subscribe calls only
    (no forget, no reconnect) and no failing publish, the loop is never left paused
    while a subscription is registered — for any number of Subscribe calls and every
    interleaving. -/
theorem C27_no_stall_partial (n : Nat) (s : St) (hr : ReachableNoErr (started n) s) :
    stalled s = false :=
  not_stalled_of_noStall (noStall_reachable hr)

/-- two pausing threads are one too many for the guard of `C27_no_deadlock_partial`: its sum
    `forgets + stale + staleD` at the witness of `C27_finding_self_pause_full` (the fourth summand,
    the reconnects, is 0 there too and is not shown) -/
example : ¬ (1 + 1 + 0 ≤ 1) := by decide

/-- non-vacuity: a full healthy cycle (subscribe, publish, response, cancel) ends at rest -/
example :
    (run (init 1 1 0 0 0 0)
      [.selTakePause, .subSendResume, .subRegister, .pausedTakeResume, .selDefault, .pubStart, .respOk, .handle,
       .selDefault, .pubStart, .fgLock, .fgSendPause, .respErr, .selfPause, .selTakePause, .pausedTakePause]).map
      (fun s => (atRest s, s.pause, s.loop)) = some (true, 0, .paused) := by decide

end Opcua.Props.C27
