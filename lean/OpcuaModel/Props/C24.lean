import OpcuaModel.Model.Endpoint
/-
  C24 — endpoint selection returns a best matching endpoint.

  `selectSorted` / `selectWith` model `opcua.SelectEndpoint` after / including
  the sort; `formatPolicy` models `ua.FormatSecurityPolicyURI` over the table
  and prefix regenerated from package `ua` (`Gen/SecPolicy.lean`).  The
  theorems hold for EVERY list `l` (any length, duplicates, ties), EVERY
  arrangement `l'` the sort may leave (`SortedDescOf l' l`: a permutation of
  `l` with non-increasing levels — the only contract of `sort.Sort`), every
  policy text and every mode including the two "don't care" values.
  `Matches` is the specification: each criterion is "don't care" or met.
-/
namespace Opcua.Props.C24
open Opcua Opcua.EndpointSel

/-- the facts about the generated table the normalisation lemmas rest on,
    decided on the table of the current source -/
theorem C24_table_ok : TableOk Gen.secPolicyTable Gen.secPolicyPrefix :=
  policyTable_ok

/-- soundness and optimality: a selected endpoint is one of the given ones,
    matches the request, and no matching endpoint has a higher level -/
theorem C24_select_best (l l' : List Endpoint) (hs : SortedDescOf l' l) (policy : Bytes) (mode : Nat)
    (e : Endpoint) (h : selectSorted l' policy mode = some e) :
    e ∈ l ∧ Matches (formatPolicy policy) mode e ∧
      ∀ e' ∈ l, Matches (formatPolicy policy) mode e' → e'.level ≤ e.level := by
  rw [selectSorted_eq_find] at h
  refine ⟨hs.1.mem_iff.mp (List.mem_of_find?_eq_some h), by simpa using List.find?_some h, ?_⟩
  intro e' he' hm
  exact Lists.find?_pairwise (R := fun a b => b.level ≤ a.level) (fun _ => Nat.le_refl _) hs.2 h e'
    (hs.1.mem_iff.mpr he') (decide_eq_true hm)

/-- completeness: selection fails exactly when no endpoint matches (the empty
    list included) -/
theorem C24_select_none_iff (l l' : List Endpoint) (hs : SortedDescOf l' l) (policy : Bytes) (mode : Nat) :
    selectSorted l' policy mode = none ↔ ∀ e ∈ l, ¬ Matches (formatPolicy policy) mode e := by
  rw [selectSorted_eq_find, List.find?_eq_none]
  simp only [decide_eq_true_eq, hs.1.mem_iff]

/-- the whole function, for every sort that honours the contract: the result
    is a best match of the INPUT list, and the error return means "no match" -/
theorem C24_selectWith (sort : List Endpoint → List Endpoint) (hsort : ∀ l, SortedDescOf (sort l) l)
    (l : List Endpoint) (policy : Bytes) (mode : Nat) :
    (∀ e, selectWith sort l policy mode = some e →
        e ∈ l ∧ Matches (formatPolicy policy) mode e ∧
        ∀ e' ∈ l, Matches (formatPolicy policy) mode e' → e'.level ≤ e.level) ∧
    (selectWith sort l policy mode = none ↔ ∀ e ∈ l, ¬ Matches (formatPolicy policy) mode e) := by
  rw [selectWith_eq sort hsort]
  exact ⟨fun e h => C24_select_best l (sort l) (hsort l) policy mode e h,
         C24_select_none_iff l (sort l) (hsort l) policy mode⟩

/-- two admissible sorts may return different endpoints, but always of the
    same level (what the correspondence run compares) -/
theorem C24_level_unique (l l₁ l₂ : List Endpoint) (h₁ : SortedDescOf l₁ l) (h₂ : SortedDescOf l₂ l)
    (policy : Bytes) (mode : Nat) (e₁ e₂ : Endpoint)
    (s₁ : selectSorted l₁ policy mode = some e₁) (s₂ : selectSorted l₂ policy mode = some e₂) :
    e₁.level = e₂.level := by
  obtain ⟨m₁, q₁, b₁⟩ := C24_select_best l l₁ h₁ policy mode e₁ s₁
  obtain ⟨m₂, q₂, b₂⟩ := C24_select_best l l₂ h₂ policy mode e₂ s₂
  exact Nat.le_antisymm (b₂ e₁ m₁ q₁) (b₁ e₂ m₂ q₂)

/-- order independence of the whole function: the order in which the server
    lists its endpoints (any permutation `m` of `l`) and the sort used (any two
    admissible ones) change neither whether an endpoint is found nor its level -/
theorem C24_input_order_irrelevant (sort₁ sort₂ : List Endpoint → List Endpoint)
    (h₁ : ∀ l, SortedDescOf (sort₁ l) l) (h₂ : ∀ l, SortedDescOf (sort₂ l) l)
    (l m : List Endpoint) (hp : l.Perm m) (policy : Bytes) (mode : Nat) :
    (selectWith sort₁ l policy mode).map (·.level) = (selectWith sort₂ m policy mode).map (·.level) := by
  -- what `sort₂` leaves of `m` is also an arrangement of `l`, so both runs select from arrangements of `l`
  have h₂' : SortedDescOf (sort₂ m) l := ⟨(h₂ m).1.trans hp.symm, (h₂ m).2⟩
  have none_iff := fun l' hs => C24_select_none_iff l l' hs policy mode
  rw [selectWith_eq sort₁ h₁, selectWith_eq sort₂ h₂]
  cases r₁ : selectSorted (sort₁ l) policy mode with
  | none => rw [(none_iff _ h₂').mpr ((none_iff _ (h₁ l)).mp r₁)]
  | some e₁ =>
    cases r₂ : selectSorted (sort₂ m) policy mode with
    | none => rw [(none_iff _ (h₁ l)).mpr ((none_iff _ h₂').mp r₂)] at r₁; cases r₁
    | some e₂ => exact congrArg some (C24_level_unique l _ _ (h₁ l) h₂' policy mode e₁ e₂ r₁ r₂)

/-- the sort the driver uses is an admissible one, so every theorem above
    applies to the model the correspondence run executes -/
theorem C24_driver_sort_admissible (l : List Endpoint) : SortedDescOf (sortDesc l) l := by
  induction l with
  | nil => exact ⟨List.Perm.refl _, List.Pairwise.nil⟩
  | cons a r ih => exact ⟨(insDesc_perm a _).trans (ih.1.cons a), insDesc_sorted a _ ih.2⟩

/-! ### normalisation of the policy name (`ua.FormatSecurityPolicyURI`) -/

/-- "" stays "" (policy "don't care"), and nothing else becomes "" -/
theorem C24_format_empty_iff (p : Bytes) : formatPolicy p = [] ↔ p = [] :=
  formatWith_eq_nil_iff C24_table_ok p

/-- a short name of the table is mapped to its URI -/
theorem C24_format_short (k u : Bytes) (hk : k ≠ []) (h : Gen.secPolicyTable.lookup k = some u) :
    formatPolicy k = u :=
  formatWith_key hk h

/-- a URI under the OPC Foundation prefix is left alone -/
theorem C24_format_uri (p : Bytes) (h : Gen.secPolicyPrefix.isPrefixOf p = true) : formatPolicy p = p :=
  formatWith_uri C24_table_ok h

/-- any other non-empty name gets the prefix -/
theorem C24_format_unknown (p : Bytes) (hne : p ≠ []) (hl : Gen.secPolicyTable.lookup p = none)
    (hp : Gen.secPolicyPrefix.isPrefixOf p = false) : formatPolicy p = Gen.secPolicyPrefix ++ p :=
  formatWith_other hne hl hp

/-- every non-empty request becomes a URI under the prefix; normalising twice
    changes nothing -/
theorem C24_format_canonical (p : Bytes) :
    (p ≠ [] → Gen.secPolicyPrefix.isPrefixOf (formatPolicy p) = true) ∧
    formatPolicy (formatPolicy p) = formatPolicy p :=
  ⟨fun h => formatWith_prefixed C24_table_ok h, formatWith_idem C24_table_ok p⟩

/-- the six policies of OPC UA Part 7 under the names the library documents
    (Go-style and specification-style fragments) reach their standard URIs -/
theorem C24_format_standard :
    let pre := "http://opcfoundation.org/UA/SecurityPolicy#".toUTF8.toList
    pre = Gen.secPolicyPrefix ∧
    ∀ kf ∈ [("None", "None"), ("Basic128Rsa15", "Basic128Rsa15"), ("Basic256", "Basic256"),
            ("Basic256Sha256", "Basic256Sha256"),
            ("Aes128Sha256RsaOaep", "Aes128_Sha256_RsaOaep"), ("Aes128_Sha256_RsaOaep", "Aes128_Sha256_RsaOaep"),
            ("Aes256Sha256RsaPss", "Aes256_Sha256_RsaPss"), ("Aes256_Sha256_RsaPss", "Aes256_Sha256_RsaPss")],
      formatPolicy (kf.1 : String).toUTF8.toList = pre ++ (kf.2 : String).toUTF8.toList := by
  decide +kernel

/-! ### non-vacuity -/

def ep (u : String) (m lvl : Nat) : Endpoint := ⟨u.toUTF8.toList, m, lvl⟩

-- ties and duplicates: the result has the top level among the matches
example : (selectWith sortDesc [ep "x#A" 2 5, ep "x#B" 3 9, ep "x#A" 3 9, ep "x#A" 3 1] [] 3).map (·.level) = some 9 := by
  decide +kernel
-- both "don't care": the highest level of all
example : (selectWith sortDesc [ep "a" 1 0, ep "b" 7 200, ep "c" 0 3] [] 0).map (·.level) = some 200 := by
  decide +kernel
-- no match, empty list
example : selectWith sortDesc [ep "a" 1 0] [] 2 = none := by decide +kernel
example : selectWith sortDesc [] [] 0 = none := by decide +kernel

end Opcua.Props.C24
