import OpcuaModel.Model.Own
import OpcuaModel.Gen.RecvAlias
/-
  C20 — messages delivered to the application never change afterwards.

  Ownership model `Own`: every step of the receive path writes only buffers
  it has just allocated, provided the alias facts hold; the facts are read
  from the current source by the generator (`Gen.RecvAlias.facts`).  A decoded
  message references the buffer its body lives in (byte strings are sub-slices
  of the decoder's input), so "the message never changes" is "that buffer is
  never written after delivery" — `Frozen`.
-/
namespace Opcua.Props.C20
open Opcua Opcua.Own

/-- the facts extracted from the current source are the ones the theorem needs -/
theorem C20_facts : Gen.RecvAlias.facts.ok = true := by decide

/-- **Frozen.**  For every sequence of chunk frames — secured or not, single-
    and multi-chunk messages, any interleaving of request ids — on a channel
    whose code satisfies the alias facts: no buffer referenced by a delivered
    message is written after the delivery. -/
theorem C20_frozen (f : Facts) (hf : f.ok = true) (ops : List Op) : Frozen (run f {} ops).trace :=
  (run_inv f hf {} ops ⟨fun _ h => (nomatch h), trivial⟩).2

theorem C20_frozen_current (ops : List Op) : Frozen (run Gen.RecvAlias.facts {} ops).trace :=
  C20_frozen _ C20_facts ops

/-- every buffer a run has delivered was handed out by it: its identity lies
    below `next`, from any state that satisfies `Inv`.  This is the half of the
    argument about several channels that is stated: each `SecureChannel`/`Conn`
    has its own state and (by the facts) no buffer outlives a call except
    through the message, so traffic on another connection is a run of its own,
    drawing its identities from another range.  That such a run writes only
    buffers at or above the `next` it started from is not stated. -/
theorem C20_delivered_below_next (f : Facts) (hf : f.ok = true) (st : St) (h : Inv st) (ops : List Op) :
    ∀ b, Ev.deliver b ∈ (run f st ops).trace → b < (run f st ops).next :=
  (run_inv f hf st ops h).1

/-- the facts are needed: with a receive buffer that is kept and re-used
    (`recvMakesPerCall = false`, what the `// TODO: sync.Pool` in
    `Conn.Receive` would introduce) the second frame overwrites the first
    delivered message -/
theorem C20_needs_per_call_buffer :
    ¬ Frozen (run { recvMakesPerCall := false, noBufferFields := true, noPool := true, decryptCopies := true, mergeAppendsFresh := true }
        {} [⟨false, true, 1⟩, ⟨false, true, 2⟩]).trace := by decide

/-- … likewise a decrypt scratch buffer that is re-used -/
theorem C20_needs_decrypt_copy :
    ¬ Frozen (run { recvMakesPerCall := true, noBufferFields := true, noPool := true, decryptCopies := false, mergeAppendsFresh := true }
        {} [⟨true, true, 1⟩, ⟨true, true, 2⟩]).trace := by decide

/-- … and a merge buffer that is re-used -/
theorem C20_needs_fresh_merge :
    ¬ Frozen (run { recvMakesPerCall := true, noBufferFields := true, noPool := true, decryptCopies := true, mergeAppendsFresh := false }
        {} [⟨false, false, 1⟩, ⟨false, true, 1⟩, ⟨false, false, 2⟩, ⟨false, true, 2⟩]).trace := by decide

/-- non-vacuity: a secured two-chunk message interleaved with an unsecured
    single-chunk one: buffers 0..7, deliveries reference 4 (frame of the single
    chunk) and 7 (merge buffer) -/
example :
    (run Gen.RecvAlias.facts {} [⟨true, false, 1⟩, ⟨true, false, 1⟩, ⟨false, true, 2⟩, ⟨true, true, 1⟩]).trace =
      [.deliver 7, .write 7, .write 6, .write 5, .deliver 4, .write 4, .write 3, .write 2, .write 1, .write 0] := by decide

end Opcua.Props.C20
