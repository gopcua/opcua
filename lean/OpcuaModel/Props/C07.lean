import OpcuaModel.Model.ChunkMsg
import OpcuaModel.Props.C38
import OpcuaModel.Model.ChunkRef
import OpcuaModel.Model.Stack
import OpcuaModel.Props.C01
import OpcuaModel.Props.C14
/-
  C07 — secure-channel chunking round-trips every message under every policy
  and mode.

  Model: `Model/Chunk.lean` (byte level, statement-by-statement mirror of
  `EncodeChunks`, the send loops, `signAndEncrypt`, `readChunk`,
  `verifyAndDecrypt`, the chunk table of `Receive`, `mergeChunks`).
  The maximum body size is `Gen.setMaximumBodySize` (machine translation of
  `SetMaximumBodySize`), the policy parameters are the rows of
  `Gen.symmetricRows`, the sequence numbers come from `Gen.nextSequenceNumber`
  — all regenerated from the source on every run.

  Every theorem is for EVERY row of the policy table, EVERY mode, EVERY chunk
  size in [8192, 2^32), EVERY body (any length below 2^32, any content), every
  channel / token / request id, every reachable value of the sender's sequence
  counter, and ANY cryptographic primitives that satisfy `CryptoOK`
  (decrypt ∘ encrypt = id on whole blocks and keeps lengths, signatures have
  the policy's length and verify).  The correspondence run instantiates the
  primitives with reference AES-CBC / HMAC and compares bytes with gopcua.
  `pS`, `pR` are `Side.policyNone` of the sending and the receiving side
  (`cfg.SecurityPolicyURI == None`); only the receiver's mode-None shortcut reads it.
-/
namespace Opcua.Props.C07
open Opcua Opcua.Chunk Opcua.Keys Opcua.CryptoRef Opcua.ChunkRef

/-- What is assumed about the primitives of one direction (`cS` on the sending
    side, `cR` on the receiving side) for the parameter row `a`. -/
structure CryptoOK (a : AlgoParams) (cS cR : Crypto) : Prop where
  sign_ok : ∀ m, ∃ sg, cS.sign m = some sg ∧ sg.length = a.signatureLength.toNat ∧ cR.verify m sg = true
  enc_ok : ∀ p : Bytes, 0 < p.length → p.length % a.plaintextBlockSize.toNat = 0 →
    ∃ q, cS.enc p = some q ∧ q.length = p.length / a.plaintextBlockSize.toNat * a.blockSize.toNat ∧
      cR.dec q = some p

/-- `instance.maxBodySize` after `SetMaximumBodySize(chunkSize)` -/
def maxBody (a : AlgoParams) (cs : Int) : Nat := (Gen.setMaximumBodySize a cs).toNat

/-- `instance.sequenceNumber` is a `uint32`: that is all the round trip needs
    since `mergeChunks` keeps the first chunk unconditionally -/
abbrev SeqInv := Chunk.SeqInv

/-- the body size is positive, and as an integer it is `C38.maxBody` (no `toNat` truncation) -/
theorem maxBody_pos (a : AlgoParams) (ha : a ∈ Gen.symmetricRows) (cs : Int) (h : 8192 ≤ cs)
    (hcs : cs < 4294967296) : 0 < maxBody a cs ∧ (maxBody a cs : Int) = C38.maxBody a cs := by
  have := C38.C38_maxBody_range a (C38.C38_rows_ok a ha) cs h hcs
  simp only [maxBody, C38.maxBody] at *
  omega

theorem paired_of_row (a : AlgoParams) (ha : a ∈ Gen.symmetricRows) (m : Mode) (pS pR : Bool)
    (cS cR : Crypto) (hc : CryptoOK a cS cR) : Paired ⟨m, pS, a, cS⟩ ⟨m, pR, a, cR⟩ := by
  obtain ⟨hb, hpl, -, -, hr⟩ := C38.C38_rows_ok a ha
  obtain ⟨hrs, hs⟩ := C38.rows_sig a ha
  exact { mode := rfl, pbs_pos := by show 0 < a.plaintextBlockSize.toNat; omega, rsl := by rw [hrs],
          extra := by rw [hrs], pad_fits := by show a.plaintextBlockSize.toNat ≤ _; split <;> omega,
          sign_ok := hc.sign_ok, enc_ok := hc.enc_ok }

/-- a chunk carrying at most `maxBody` body bytes fits the chunk size (C38 for the byte model) -/
theorem chunkLen_fits (a : AlgoParams) (ha : a ∈ Gen.symmetricRows) (m : Mode) (pS : Bool) (cS : Crypto)
    (cs : Int) (h : 8192 ≤ cs) (hcs : cs < 4294967296) (n : Nat) (hn : n ≤ maxBody a cs) :
    ((chunkLen ⟨m, pS, a, cS⟩ (8 + n) : Nat) : Int) ≤ cs := by
  rw [chunkLen_eq_secureLen (C38.C38_rows_ok a ha).blockRow m pS cS]
  refine C38.C38_fits a (C38.C38_rows_ok a ha) m cs h hcs _ (by omega) ?_
  rw [← (maxBody_pos a ha cs h hcs).2]
  exact Int.ofNat_le.mpr hn

/-- `nextSequenceNumber` returns a `uint32` and never the number it started
    from — for EVERY counter value, also across the wrap-around (…→ 1) and from
    2^32-1 (→ 0): consecutive chunks of one message never share a number, which
    is what `mergeChunks`' duplicate detection relies on -/
theorem C07_seq_distinct (seq : Int) (h : SeqInv seq) :
    SeqInv (Gen.nextSequenceNumber seq).1 ∧ (Gen.nextSequenceNumber seq).2 = (Gen.nextSequenceNumber seq).1 ∧
    (Gen.nextSequenceNumber seq).2 ≠ seq :=
  have := nextSequenceNumber_inv seq h
  ⟨this.1, this.2.1, this.2.1 ▸ this.2.2⟩

/-- ROUND TRIP.  The chunks the sender writes for a `MSG` message
    (`newMessage` + `EncodeChunks` + send loop with sequence-number fix-up +
    `signAndEncrypt`) are accepted by the receiver's `readChunk` /
    `verifyAndDecrypt`; its `Receive` loop continues on every chunk but the last
    and on the last returns exactly the original body (the bytes handed to
    `ua.DecodeService`), with the original request id and channel id; nothing is
    left in the chunk table.  Hypotheses: the receiver's newest instance for the
    channel id is the matching one; its table has no pending chunks for this
    request id; the message respects the receiver's `MaxChunkCount` (counted on
    the intermediate chunks, as `Receive` does) and `MaxMessageSize` where these
    are not 0 (= no limit).  The sender's counter may be ANY `uint32`
    (`C07_seq_distinct`; `C07_counter_zero_ok` shows the former problem case). -/
theorem C07_roundtrip (a : AlgoParams) (ha : a ∈ Gen.symmetricRows) (m : Mode) (pS pR : Bool)
    (cS cR : Crypto) (hc : CryptoOK a cS cR) (cs : Int) (h : 8192 ≤ cs) (hcs : cs < 4294967296)
    (insts : Nat → List Side) (lim : Limits) (chan tok req : Nat) (hchan : chan < 4294967296)
    (hreq : req < 4294967296) (hi : ∃ rest, (insts chan).reverse = ⟨m, pR, a, cR⟩ :: rest)
    (seq : Int) (hseq : SeqInv seq) (body : Bytes) (hb : body.length < 4294967296)
    (t : Table) (ht : t req = [])
    (hcount : lim.maxChunkCount = 0 ∨ body.length / maxBody a cs ≤ lim.maxChunkCount)
    (hsize : lim.maxMessageSize = 0 ∨ body.length ≤ lim.maxMessageSize) :
    ∃ ws seq', sendMessage ⟨m, pS, a, cS⟩ (maxBody a cs) seq typeMSG chan tok req body = (seq', .ok ws) ∧
      SeqInv seq' ∧
      receiveAll insts lim t ws = (t.set req [], some (.ok ⟨req, chan, body⟩), []) := by
  obtain ⟨ws, h1, -, h3, -⟩ := message_roundtrip
    (chunk_roundtrip (paired_of_row a ha m pS pR cS cR hc) insts _ rfl hchan hreq hi) lim
    (maxBody a cs) (maxBody_pos a ha cs h hcs).1 seq hseq body hb t ht hcount hsize
  exact ⟨ws, _, h1, seqAfter_inv _ _ hseq, h3⟩

/-- SESSION ROUND TRIP.  Any number of messages sent one after the other over
    the same channel instance — the sequence counter threads through, including
    its wrap-around (… → 1) and the step 2^32-1 → 0 — are received, by calling
    `Receive` again and again on the stream of chunks, as the same sequence of
    (request id, channel id, body); the counter stays a `uint32`.  Request ids may
    repeat; every message individually respects the receiver's limits. -/
theorem C07_session_roundtrip (a : AlgoParams) (ha : a ∈ Gen.symmetricRows) (m : Mode) (pS pR : Bool)
    (cS cR : Crypto) (hc : CryptoOK a cS cR) (cs : Int) (h : 8192 ≤ cs) (hcs : cs < 4294967296)
    (insts : Nat → List Side) (lim : Limits) (chan tok : Nat) (hchan : chan < 4294967296)
    (hi : ∃ rest, (insts chan).reverse = ⟨m, pR, a, cR⟩ :: rest)
    (msgs : List (Nat × Bytes)) (t : Table)
    (hm : ∀ x ∈ msgs, x.1 < 4294967296 ∧ x.2.length < 4294967296 ∧ t x.1 = [] ∧
      (lim.maxChunkCount = 0 ∨ x.2.length / maxBody a cs ≤ lim.maxChunkCount) ∧
      (lim.maxMessageSize = 0 ∨ x.2.length ≤ lim.maxMessageSize))
    (seq : Int) (hseq : SeqInv seq) :
    ∃ wire seq', sendSession ⟨m, pS, a, cS⟩ (maxBody a cs) chan tok seq msgs = (seq', .ok wire) ∧ SeqInv seq' ∧
      receiveMany insts lim wire.length t wire = msgs.map (fun x => .ok ⟨x.1, chan, x.2⟩) := by
  obtain ⟨wire, sq, h1, h2, -, h4⟩ := session_roundtrip (paired_of_row a ha m pS pR cS cR hc) insts lim
    (maxBody a cs) (maxBody_pos a ha cs h hcs).1 chan tok hchan hi msgs t hm seq hseq
  exact ⟨wire, sq, h1, h2, h4 _ (Nat.le_refl _)⟩

/-- the `Wires` facts of what the sender writes; they speak of the sender alone, so the receiver is
    fixed to the one-instance table `fun _ => [⟨m, pS, a, cR⟩]` -/
theorem wire_facts (a : AlgoParams) (ha : a ∈ Gen.symmetricRows) (m : Mode) (pS : Bool)
    (cS cR : Crypto) (hc : CryptoOK a cS cR) (cs : Int) (h : 8192 ≤ cs) (hcs : cs < 4294967296)
    (chan tok req : Nat) (hchan : chan < 4294967296) (hreq : req < 4294967296)
    (seq : Int) (body : Bytes) (hb : body.length < 4294967296) :
    ∃ ws seq', sendMessage ⟨m, pS, a, cS⟩ (maxBody a cs) seq typeMSG chan tok req body = (seq', .ok ws) ∧
      Wires (fun _ => [⟨m, pS, a, cR⟩]) ⟨m, pS, a, cS⟩ ws
        (stamped chan req seq (items (maxBody a cs) body)) := by
  obtain ⟨ws, h1, hW⟩ := sendMessage_ok
    (chunk_roundtrip (paired_of_row a ha m pS pS cS cR hc) (fun _ => [⟨m, pS, a, cR⟩]) _ rfl hchan hreq ⟨[], rfl⟩)
    (maxBody a cs) (maxBody_pos a ha cs h hcs).1 seq body hb
  exact ⟨ws, _, h1, hW⟩

/-- number of chunks: `|body| / maxBody + 1`; in particular a body that is an
    exact multiple `k · maxBody` is sent as `k + 1` chunks -/
theorem C07_chunk_count (a : AlgoParams) (ha : a ∈ Gen.symmetricRows) (m : Mode) (pS : Bool)
    (cS cR : Crypto) (hc : CryptoOK a cS cR) (cs : Int) (h : 8192 ≤ cs) (hcs : cs < 4294967296)
    (chan tok req : Nat) (hchan : chan < 4294967296) (hreq : req < 4294967296)
    (seq : Int) (body : Bytes) (hb : body.length < 4294967296) :
    ∃ ws seq', sendMessage ⟨m, pS, a, cS⟩ (maxBody a cs) seq typeMSG chan tok req body = (seq', .ok ws) ∧
      ws.length = body.length / maxBody a cs + 1 ∧
      (∀ k, body.length = k * maxBody a cs → ws.length = k + 1) := by
  obtain ⟨ws, sq, h1, hW⟩ := wire_facts a ha m pS cS cR hc cs h hcs chan tok req hchan hreq seq body hb
  have hlen : ws.length = body.length / maxBody a cs + 1 := by
    rw [hW.length_eq, stamped_length, items_length]
  exact ⟨ws, sq, h1, hlen, fun k hk => by rw [hlen, hk, Nat.mul_div_cancel _ (maxBody_pos a ha cs h hcs).1]⟩

/-- FITS and SIZE FIELD.  Every chunk the sender writes is at most the
    negotiated chunk size long and its `MessageSize` field (bytes 4..7, little
    endian) equals its length. -/
theorem C07_fits_and_size_field (a : AlgoParams) (ha : a ∈ Gen.symmetricRows) (m : Mode) (pS : Bool)
    (cS cR : Crypto) (hc : CryptoOK a cS cR) (cs : Int) (h : 8192 ≤ cs) (hcs : cs < 4294967296)
    (chan tok req : Nat) (hchan : chan < 4294967296) (hreq : req < 4294967296)
    (seq : Int) (body : Bytes) (hb : body.length < 4294967296) :
    ∃ ws seq', sendMessage ⟨m, pS, a, cS⟩ (maxBody a cs) seq typeMSG chan tok req body = (seq', .ok ws) ∧
      ∀ w ∈ ws, (w.length : Int) ≤ cs ∧ u32At w 4 = w.length := by
  obtain ⟨ws, sq, h1, hW⟩ := wire_facts a ha m pS cS cR hc cs h hcs chan tok req hchan hreq seq body hb
  refine ⟨ws, sq, h1, fun w hw => ?_⟩
  obtain ⟨c, ⟨-, hlen, hsz, -⟩, hle, -⟩ := Wires.data_le (maxBody_pos a ha cs h hcs).1 hW w hw
  have hfit := chunkLen_fits a ha m pS cS cs h hcs _ hle
  rw [← hlen] at hfit
  exact ⟨hfit, by rw [hsz, Nat.mod_eq_of_lt (by omega)]⟩

/-- FLAGS.  All chunks but the last carry chunk type 'C' (intermediate), the
    last carries 'F' (final). -/
theorem C07_flags (a : AlgoParams) (ha : a ∈ Gen.symmetricRows) (m : Mode) (pS : Bool)
    (cS cR : Crypto) (hc : CryptoOK a cS cR) (cs : Int) (h : 8192 ≤ cs) (hcs : cs < 4294967296)
    (chan tok req : Nat) (hchan : chan < 4294967296) (hreq : req < 4294967296)
    (seq : Int) (body : Bytes) (hb : body.length < 4294967296) :
    ∃ wa wx seq', sendMessage ⟨m, pS, a, cS⟩ (maxBody a cs) seq typeMSG chan tok req body =
        (seq', .ok (wa ++ [wx])) ∧
      (∀ w ∈ wa, (w.drop 3).head? = some chunkC) ∧ (wx.drop 3).head? = some chunkF := by
  obtain ⟨ws, sq, h1, hW⟩ := wire_facts a ha m pS cS cR hc cs h hcs chan tok req hchan hreq seq body hb
  -- the items are the 'C' pieces followed by one 'F' piece: split the wires accordingly
  rw [items, stamped_snoc] at hW
  obtain ⟨wa, wx, rfl, hWa, hx⟩ := hW.snoc_inv
  refine ⟨wa, wx, sq, h1, ?_, hx.flag⟩
  intro w hw
  obtain ⟨c, hcm, -, -, -, hfl⟩ := hWa.mem w hw
  obtain ⟨-, -, i, hi, hty, -⟩ := stamped_mem hcm
  simp only [List.mem_map] at hi
  obtain ⟨p, -, rfl⟩ := hi
  rw [hfl, hty]

/-! ### OpenSecureChannel chunks (asymmetric algorithms, never split) -/

/-- what is assumed about the RSA primitives: block-wise encryption maps whole
    plaintext blocks to whole cipher blocks and is undone by the receiver's
    private key; signatures have the length of the signer's key and verify -/
structure AsymOK (ls rs pad : Nat) (cS cR : Crypto) : Prop where
  sign_ok : ∀ m, ∃ sg, cS.sign m = some sg ∧ sg.length = ls ∧ cR.verify m sg = true
  enc_ok : ∀ p : Bytes, 0 < p.length → p.length % (rs - pad) = 0 →
    ∃ q, cS.enc p = some q ∧ q.length = p.length / (rs - pad) * rs ∧ cR.dec q = some p

/-- `rs ≤ 65536`: the plaintext block `rs - pad` bounds the padding count, which has to fit the two
    bytes PaddingSize, ExtraPaddingSize (`Paired.pad_fits`) -/
theorem paired_asym (ls rs pad : Nat) (hpad : pad < rs) (hrs : rs ≤ 65536) (m : Mode) (pS pR : Bool)
    (cS cR : Crypto) (hc : AsymOK ls rs pad cS cR) :
    Paired ⟨m, pS, asymParams ls rs pad, cS⟩ ⟨m, pR, asymParams rs ls pad, cR⟩ := by
  have e1 : ((rs : Int) - (pad : Int)).toNat = rs - pad := by omega
  refine { mode := rfl, pbs_pos := ?_, rsl := ?_, extra := ?_, pad_fits := ?_, sign_ok := ?_, enc_ok := ?_ }
  · simp only [asymParams, e1]; omega
  · simp [asymParams]
  · simp [asymParams]
  · simp only [asymParams, e1]
    by_cases h256 : (rs : Int) > 256 <;> simp [h256] <;> omega
  · simpa [asymParams] using hc.sign_ok
  · simpa only [asymParams, e1, Int.toNat_natCast] using hc.enc_ok

/-- OPN ROUND TRIP, for ALL pairs of key sizes (sender `ls`, receiver `rs`,
    bytes, up to 65536), any per-block overhead `pad < rs`, any header length
    ≥ 8 and any raw chunk: the receiver (whose local key is the sender's remote
    key and vice versa) gets back exactly what followed the security header; the
    MessageSize field of the secured chunk is its length (as uint32).  This covers the
    ExtraPaddingSize byte, which the sender decides from the RECEIVER's key
    (`RemoteSignatureLength() > 256`) and the receiver from its OWN key
    (`SignatureLength() > 256`): the two tests agree for every size pair. -/
theorem C07_opn_roundtrip (ls rs pad : Nat) (hpad : pad < rs) (hrs : rs ≤ 65536)
    (m : Mode) (hm : m ≠ .none) (pS pR : Bool) (cS cR : Crypto) (hc : AsymOK ls rs pad cS cR)
    (hl : Nat) (hl8 : 8 ≤ hl) (b : Bytes) (hb : hl ≤ b.length) :
    ∃ w, signAndEncrypt ⟨m, pS, asymParams ls rs pad, cS⟩ true hl b = .ok w ∧
      verifyAndDecrypt ⟨m, pR, asymParams rs ls pad, cR⟩ true hl w = .ok (b.drop hl) ∧
      u32At w 4 = w.length % 4294967296 := by
  obtain ⟨H, X, rfl, rfl⟩ : ∃ H X, b = H ++ X ∧ H.length = hl :=
    ⟨b.take hl, b.drop hl, (List.take_append_drop hl b).symm, List.length_take_of_le hb⟩
  obtain ⟨q, -, h1, h2⟩ := secure_roundtrip (paired_asym ls rs pad hpad hrs m pS pR cS cR hc) true H X hl8 hm
  refine ⟨_, h1, by rwa [List.drop_left' rfl], ?_⟩
  rw [u32At_putU32 _ _ _ _ (by omega), List.length_append, putU32_length _ _ _ (by omega)]

/-! ### the sequence counter: no hypothesis beyond `uint32` -/

/-- a null cipher: mode None needs none of the primitives -/
def nullCrypto : Crypto := { enc := some, dec := some, sign := fun _ => some [], verify := fun _ _ => true }

def nullSide : Side := ⟨.none, true, Gen.symNone, nullCrypto⟩

/-- The former problem case, by evaluation: with the counter at 2^32-1 the first
    chunk gets sequence number 0.  Before the fix dea8d35 `mergeChunks` took it for
    a duplicate of its initial `seqnr = 0` and dropped it; now the first chunk is
    kept unconditionally and the two-chunk message comes back complete (also
    with no limits configured: `MaxChunkCount = MaxMessageSize = 0`). -/
theorem C07_counter_zero_ok :
    ∃ ws, sendMessage nullSide 4 4294967295 typeMSG 1 1 1 [1, 2, 3, 4, 5] = (1, .ok ws) ∧
      (receiveAll (fun _ => [nullSide]) ⟨0, 0⟩ (fun _ => []) ws).2 =
        (some (.ok ⟨1, 1, [1, 2, 3, 4, 5]⟩), []) := by
  refine ⟨_, rfl, ?_⟩
  decide

/-- a session by evaluation: three messages over one instance whose counter
    wraps inside the second one (… 4294966271, 4294966272 | 1, 2, 3 | 4) -/
example : ∃ wire, sendSession nullSide 4 1 1 4294966270 [(5, [1, 2, 3, 4, 5]), (6, [9, 8, 7, 6, 5, 4, 3, 2, 1]), (5, [])] =
      (4, .ok wire) ∧ wire.length = 6 ∧
    receiveMany (fun _ => [nullSide]) ⟨0, 0⟩ wire.length (fun _ => []) wire =
      [.ok ⟨5, 1, [1, 2, 3, 4, 5]⟩, .ok ⟨6, 1, [9, 8, 7, 6, 5, 4, 3, 2, 1]⟩, .ok ⟨5, 1, []⟩] := by
  refine ⟨_, rfl, ?_, ?_⟩ <;> decide

/-- what the duplicate detection still does: a chunk that repeats the number of
    its predecessor is skipped (only the sender's distinct numbers make this
    harmless, `C07_seq_distinct`) -/
theorem C07_duplicate_number_skipped :
    mergeChunks [⟨chunkC, 1, 7, 1, [1]⟩, ⟨chunkC, 1, 7, 1, [2]⟩, ⟨chunkF, 1, 8, 1, [3]⟩] = [1, 3] := by decide

/-- non-vacuity: a `CryptoOK` instance exists for the null row, and the
    theorem's conclusion is an actual computation there: 9 bytes with
    `maxBody = 4` travel as 3 chunks C, C, F and come back. -/
example : CryptoOK Gen.symNone nullCrypto nullCrypto :=
  { sign_ok := fun _ => ⟨[], rfl, rfl, rfl⟩,
    enc_ok := fun p _ _ => ⟨p, rfl, by simp [Gen.symNone], rfl⟩ }

example : ∃ ws, sendMessage nullSide 4 0 typeMSG 7 8 9 [1, 2, 3, 4, 5, 6, 7, 8, 9] = (3, .ok ws) ∧
    ws.map (fun w => (w.drop 3).head?) = [some chunkC, some chunkC, some chunkF] ∧
    (receiveAll (fun _ => [nullSide]) ⟨10, 1000⟩ (fun _ => []) ws).2 =
      (some (.ok ⟨9, 7, [1, 2, 3, 4, 5, 6, 7, 8, 9]⟩), []) := by
  refine ⟨_, rfl, by decide, by decide⟩

/-! ### the executed reference instance: what remains assumed about the crypto -/

/-- what is still assumed about the reference AES (FIPS 197 cipher / inverse
    cipher of `Model/CryptoRef.lean`): on 16-byte blocks, for 16- and 32-byte
    keys, the inverse cipher undoes the cipher and the cipher keeps the length -/
def AesBlockOK : Prop :=
  ∀ key : Bytes, (key.length = 16 ∨ key.length = 32) → Cbc.BlockInv (aesE key) (aesD key)

/-- what is still assumed about the reference HMAC: its output has the hash length -/
def HmacLenOK : Prop := ∀ alg key m, (hmac alg key m).length = alg.outLen

theorem aesEncrypt_eq {bits : Nat} {key iv p : Bytes} (hk : key.length = bits / 8)
    (hkl : key.length = 16 ∨ key.length = 32) (hiv : iv.length = 16) (hp : p.length % 16 = 0) :
    aesEncrypt bits key iv p = some (Cbc.cbcEnc (aesE key) iv p) := by
  have e : (key ++ List.replicate (bits / 8) 0).take (bits / 8) = key := by
    rw [← hk, List.take_left']; rfl
  simp [aesEncrypt, e, hp, hiv]
  exact hkl.resolve_left

theorem aesDecrypt_eq {key iv c : Bytes} (hkl : key.length = 16 ∨ key.length = 32) (hiv : iv.length = 16)
    (hc : 0 < c.length) (hp : c.length % 16 = 0) :
    aesDecrypt key iv c = some (Cbc.cbcDec (aesD key) iv c) := by
  have : ¬c.length < 16 := by omega
  simp [aesDecrypt, hp, hiv, this]
  exact hkl.resolve_left

/-- AES-CBC as gopcua calls it: a non-empty whole number of blocks is encrypted to as many bytes and decrypted back -/
theorem aes_roundtrip (haes : AesBlockOK) {bits : Nat} {key iv p : Bytes} (hk : key.length = bits / 8)
    (hkl : key.length = 16 ∨ key.length = 32) (hiv : iv.length = 16) (hp0 : 0 < p.length) (hp : p.length % 16 = 0) :
    ∃ q, aesEncrypt bits key iv p = some q ∧ q.length = p.length ∧ aesDecrypt key iv q = some p := by
  have hl := Cbc.enc_length (haes key hkl) hiv hp
  refine ⟨_, aesEncrypt_eq hk hkl hiv hp, hl, ?_⟩
  rw [aesDecrypt_eq hkl hiv (hl.symm ▸ hp0) (hl.symm ▸ hp), Cbc.dec_enc _ _ (haes key hkl) iv p hiv hp]

/-- what `C07_reference_crypto_ok` reads off the two tables -/
@[reducible] def RefRow (a : AlgoParams) (ka : KeyAssign) : Prop :=
  a.signatureLength.toNat = ka.signatureHash.outLen ∧ ka.verifyHash = ka.signatureHash ∧
  a.plaintextBlockSize.toNat = 16 ∧ a.blockSize.toNat = 16 ∧ ka.first.encLen = ka.encryptKeyBits / 8 ∧
  (ka.encryptKeyBits / 8 = 16 ∨ ka.encryptKeyBits / 8 = 32) ∧ ka.first.ivLen = 16

/-- the reference primitives keyed with `S` on one side and `R` on the other satisfy the contract
    whenever `R` receives with what `S` sends with and the keys have the row's lengths -/
theorem refCrypto_ok_of {a : AlgoParams} {ka : KeyAssign} (hrow : RefRow a ka) (S R : SymKeys) (hm : R.recv = S.send)
    (hkeyLen : S.send.encrypting.length = ka.first.encLen) (hivLen : S.send.iv.length = ka.first.ivLen)
    (hlen : HmacLenOK) (haes : AesBlockOK) : CryptoOK a (refCrypto ka S) (refCrypto ka R) := by
  obtain ⟨hsig, hhash, hpbs, hbs, henc, hbits, hiv⟩ := hrow
  rw [henc] at hkeyLen; rw [hiv] at hivLen
  simp only [SymKeys.recv, SymKeys.send, DirKeys.mk.injEq] at hm hkeyLen hivLen
  obtain ⟨hvk, hdk, hdiv⟩ := hm
  constructor
  · intro m
    exact ⟨_, rfl, by rw [hlen, hsig], by simp [refCrypto, hhash, hvk]⟩
  · intro p hp0 hpm
    rw [hpbs] at hpm
    obtain ⟨q, e1, e2, e3⟩ := aes_roundtrip haes hkeyLen (hkeyLen ▸ hbits) hivLen hp0 hpm
    refine ⟨q, e1, ?_, by simp only [refCrypto, hdk, hdiv, e3]⟩
    rw [e2, hpbs, hbs, Nat.div_mul_cancel (Nat.dvd_of_mod_eq_zero hpm)]

theorem ref_rows : ∀ r ∈ Gen.symmetricRows.zip Gen.keyAssignRows, RefRow r.1 r.2 := by decide

/-- THE EXECUTED INSTANCE SATISFIES THE CONTRACT.  For every policy row with
    keys, all nonces: the primitives the drivers run (`refCrypto`: the proved CBC
    mode over the reference AES block functions, reference HMAC, keys by the
    model of `uapolicy.Symmetric`) satisfy `CryptoOK` between a side and its peer
    — given only the AES block inverse and the HMAC output length.  CBC
    (`Cbc.dec_enc`, `Cbc.enc_length`), the key lengths (`derive_lengths`)
    and the send/receive key pairing are proved. -/
theorem C07_reference_crypto_ok (a : AlgoParams) (ka : KeyAssign)
    (hk : (a, ka) ∈ Gen.symmetricRows.zip Gen.keyAssignRows) (hlen : HmacLenOK) (haes : AesBlockOK) (x y : Bytes) :
    CryptoOK a (refCrypto ka (symmetric ka hmac x y)) (refCrypto ka (symmetric ka hmac y x)) := by
  have hd := C14.rows_directed ka (List.of_mem_zip hk).2
  obtain ⟨-, l1, l2⟩ := derive_lengths (seed := x) (outLen_pos _) (hlen ka.first.hash y)
    ka.first.sigLen ka.first.encLen ka.first.ivLen
  rw [← symmetric_send_spec hd hmac hlen x y] at l1 l2
  exact refCrypto_ok_of (ref_rows _ hk) _ _ (symmetric_mirror hd hmac x y) l1 l2 hlen haes

/-- ROUND TRIP FOR THE EXECUTED INSTANCE: `C07_roundtrip` with the reference
    primitives plugged in; the remaining cryptographic assumptions are exactly
    `AesBlockOK` and `HmacLenOK`. -/
theorem C07_roundtrip_reference (a : AlgoParams) (ka : KeyAssign)
    (hk : (a, ka) ∈ Gen.symmetricRows.zip Gen.keyAssignRows) (hlen : HmacLenOK) (haes : AesBlockOK)
    (x y : Bytes) (m : Mode) (cs : Int) (h : 8192 ≤ cs) (hcs : cs < 4294967296)
    (lim : Limits) (chan tok req : Nat) (hchan : chan < 4294967296) (hreq : req < 4294967296)
    (seq : Int) (hseq : SeqInv seq) (body : Bytes) (hb : body.length < 4294967296)
    (hcount : lim.maxChunkCount = 0 ∨ body.length / maxBody a cs ≤ lim.maxChunkCount)
    (hsize : lim.maxMessageSize = 0 ∨ body.length ≤ lim.maxMessageSize) :
    ∃ ws seq', sendMessage ⟨m, false, a, refCrypto ka (symmetric ka hmac x y)⟩ (maxBody a cs) seq typeMSG chan tok req body =
        (seq', .ok ws) ∧
      (receiveAll (fun _ => [⟨m, false, a, refCrypto ka (symmetric ka hmac y x)⟩]) lim (fun _ => []) ws).2 =
        (some (.ok ⟨req, chan, body⟩), []) := by
  have ha : a ∈ Gen.symmetricRows := (List.of_mem_zip hk).1
  obtain ⟨ws, sq, h1, -, h3⟩ := C07_roundtrip a ha m false false _ _ (C07_reference_crypto_ok a ka hk hlen haes x y)
    cs h hcs (fun _ => [⟨m, false, a, refCrypto ka (symmetric ka hmac y x)⟩]) lim chan tok req hchan hreq ⟨[], rfl⟩
    seq hseq body hb (fun _ => []) rfl hcount hsize
  exact ⟨ws, sq, h1, by rw [h3]⟩

/-! ### composition with the framing layer (C05) and the codec (C01) -/

/-- STACK ROUND TRIP (framing + chunking/security).  For every policy row, mode,
    chunk size ≥ 8192 and receive buffer ≥ chunk size: the byte stream the sender
    writes for a session of messages, cut into ANY TCP segmentation, is delivered
    by `uacp.Conn.Receive` (model `Uacp.receiveAll`, C05) as exactly the chunks
    followed by a clean EOF, and `SecureChannel.Receive` (model `receiveMany`)
    turns these chunks back into exactly the session. -/
theorem C07_stack_roundtrip (a : AlgoParams) (ha : a ∈ Gen.symmetricRows) (m : Mode) (pS pR : Bool)
    (cS cR : Crypto) (hc : CryptoOK a cS cR) (cs : Int) (h : 8192 ≤ cs) (hcs : cs < 4294967296)
    (rcvBuf : Nat) (hrb : cs ≤ rcvBuf) (hrb2 : rcvBuf < 4294967296)
    (insts : Nat → List Side) (lim : Limits) (chan tok : Nat) (hchan : chan < 4294967296)
    (hi : ∃ rest, (insts chan).reverse = ⟨m, pR, a, cR⟩ :: rest)
    (msgs : List (Nat × Bytes)) (t : Table)
    (hm : ∀ x ∈ msgs, x.1 < 4294967296 ∧ x.2.length < 4294967296 ∧ t x.1 = [] ∧
      (lim.maxChunkCount = 0 ∨ x.2.length / maxBody a cs ≤ lim.maxChunkCount) ∧
      (lim.maxMessageSize = 0 ∨ x.2.length ≤ lim.maxMessageSize))
    (seq : Int) (hseq : SeqInv seq) :
    ∃ wire seq', sendSession ⟨m, pS, a, cS⟩ (maxBody a cs) chan tok seq msgs = (seq', .ok wire) ∧ SeqInv seq' ∧
      (∀ segs : Uacp.Stream, segs.flatten = wire.flatten → Uacp.receiveAll rcvBuf segs = (wire, .eof)) ∧
      receiveMany insts lim wire.length t wire = msgs.map (fun x => .ok ⟨x.1, chan, x.2⟩) := by
  refine Stack.stack_session (paired_of_row a ha m pS pR cS cR hc) insts lim (maxBody a cs)
    (maxBody_pos a ha cs h hcs).1 chan tok hchan hi msgs t hm seq hseq rcvBuf (by omega) hrb2 ?_
  intro n hn
  have := chunkLen_fits a ha m pS cS cs h hcs n hn
  omega

/-- the body of a service message as `EncodeChunks` computes it: type id ‖ encoded service -/
def svcBody (fuel : Nat) (tid : Codec.ExpNodeId) (i : Nat) (v : Codec.Val) : Bytes :=
  match Codec.encExpNodeId tid, Codec.encode C01.env fuel (.ptr (Gen.serviceTypes.getD i default).ty) v with
  | .ok tb, .ok bs => tb ++ bs
  | _, _ => []

/-- STACK ROUND TRIP UP TO THE SERVICE VALUE (framing + chunking/security +
    codec, composing C05, C07 and C01).  A session of registered service values
    (each: type id `tid` registered at index `i`, well-typed value `v`): the
    bodies are their encodings, the byte stream under any segmentation comes back
    as the same bodies, and `ua.DecodeService` (model `decService`, C01) applied
    to each received body returns the type id, the registered name and the
    (normalised) value, consuming the whole body. -/
theorem C07_stack_service_roundtrip (a : AlgoParams) (ha : a ∈ Gen.symmetricRows) (m : Mode) (pS pR : Bool)
    (cS cR : Crypto) (hc : CryptoOK a cS cR) (cs : Int) (h : 8192 ≤ cs) (hcs : cs < 4294967296)
    (rcvBuf : Nat) (hrb : cs ≤ rcvBuf) (hrb2 : rcvBuf < 4294967296)
    (insts : Nat → List Side) (lim : Limits) (chan tok : Nat) (hchan : chan < 4294967296)
    (hi : ∃ rest, (insts chan).reverse = ⟨m, pR, a, cR⟩ :: rest)
    (fuel : Nat) (svcs : List (Nat × Codec.ExpNodeId × Nat × Codec.Val)) (t : Table)
    (hsv : ∀ s ∈ svcs, Codec.wtExp s.2.1 = true ∧
      (((Codec.normExp s.2.1).nodeId.bind Codec.regKey).bind fun k =>
        Codec.findIdx (·.id == k) Gen.serviceTypes 0) = some s.2.2.1 ∧
      Codec.wt C01.env fuel (.ptr (Gen.serviceTypes.getD s.2.2.1 default).ty) s.2.2.2 = true)
    (hm : ∀ s ∈ svcs, s.1 < 4294967296 ∧ (svcBody fuel s.2.1 s.2.2.1 s.2.2.2).length < 4294967296 ∧ t s.1 = [] ∧
      (lim.maxChunkCount = 0 ∨ (svcBody fuel s.2.1 s.2.2.1 s.2.2.2).length / maxBody a cs ≤ lim.maxChunkCount) ∧
      (lim.maxMessageSize = 0 ∨ (svcBody fuel s.2.1 s.2.2.1 s.2.2.2).length ≤ lim.maxMessageSize))
    (seq : Int) (hseq : SeqInv seq) :
    ∃ wire seq',
      sendSession ⟨m, pS, a, cS⟩ (maxBody a cs) chan tok seq
        (svcs.map fun s => (s.1, svcBody fuel s.2.1 s.2.2.1 s.2.2.2)) = (seq', .ok wire) ∧
      (∀ segs : Uacp.Stream, segs.flatten = wire.flatten → Uacp.receiveAll rcvBuf segs = (wire, .eof)) ∧
      receiveMany insts lim wire.length t wire =
        svcs.map (fun s => .ok ⟨s.1, chan, svcBody fuel s.2.1 s.2.2.1 s.2.2.2⟩) ∧
      ∀ s ∈ svcs, ∀ al : Nat,
        Codec.decService Gen.serviceTypes (Codec.decode C01.env fuel) ⟨svcBody fuel s.2.1 s.2.2.1 s.2.2.2, al⟩ =
          .ok (Codec.normExp s.2.1, (Gen.serviceTypes.getD s.2.2.1 default).name,
               Codec.norm C01.env fuel (.ptr (Gen.serviceTypes.getD s.2.2.1 default).ty) s.2.2.2) ⟨[], al⟩ := by
  obtain ⟨wire, sq, h1, -, h3, h4⟩ := C07_stack_roundtrip a ha m pS pR cS cR hc cs h hcs rcvBuf hrb hrb2 insts lim chan tok
    hchan hi (svcs.map fun s => (s.1, svcBody fuel s.2.1 s.2.2.1 s.2.2.2)) t
    (List.forall_mem_map.mpr hm) seq hseq
  refine ⟨wire, sq, h1, h3, ?_, ?_⟩
  · rw [h4, List.map_map]; rfl
  · intro s hs al
    obtain ⟨w1, w2, w3⟩ := hsv s hs
    obtain ⟨tb, bs, e1, e2, e3⟩ := C01.C01_service fuel s.2.1 s.2.2.1 s.2.2.2 [] al w1 w2 w3
    simp only [svcBody, e1, e2]
    simpa using e3

end Opcua.Props.C07
