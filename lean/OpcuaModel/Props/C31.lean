import OpcuaModel.Model.AccessLemmas
/-
  C31 — node access levels are enforced for value reads and writes.

  `Access.nsAttribute` / `Access.nsSetAttribute` / `Access.step` mirror
  `NodeNameSpace.Attribute`, `NodeNameSpace.SetAttribute` and the attribute
  service (tied by the C31 correspondence run, in process and through a real
  client).  `lacks n flag` is the specification-side reading of "access level
  or user access level lacks the flag": the attribute is present and is not a
  `uint8` with the bit set (a missing attribute does not restrict, as the doc
  comment of `Node.Access` says).

  Per operation the property holds at full strength (`C31_read`, `C31_write`).
  Over request histories it holds for nodes that also lack CurrentWrite and for
  histories that do not write the access attributes (`C31_history_partial`);
  the unchanged code lets a client WRITE the AccessLevel / UserAccessLevel
  attributes of any node it may write, and then read a value it was denied
  (`C31_finding_client_rewrites_accesslevel`).
-/
namespace Opcua.Props.C31
open Opcua.Access

/-- the code's check and the specification's classification coincide:
    `Node.Access(flag)` answers true exactly for nodes that do not lack the flag -/
theorem C31_access_iff (n : Node) (f : Nat) : access n f = .allow ↔ lacks n f = false := by
  unfold access lacks
  cases h : accessSlot (n.get aUserAccessLevel) f <;>
    simp [Bool.or_eq_false_iff, ← accessSlot_allow_iff, h]

/-- reading ANY attribute (in particular Value) of a node that lacks CurrentRead
    never returns a value: the answer is BadUserAccessDenied (or the nil-Variant
    panic), and the node is untouched -/
theorem C31_read (n : Node) (attr : Nat) (h : lacks n fRead = true) :
    ((nsAttribute n attr).1 = .status .badUserAccessDenied ∨ (nsAttribute n attr).1 = .panic) ∧
    (nsAttribute n attr).1.isValue = false ∧ (nsAttribute n attr).2 = n := by
  have hne : access n fRead ≠ .allow := by
    intro ha; rw [(C31_access_iff n fRead).1 ha] at h; exact Bool.noConfusion h
  unfold nsAttribute
  cases ha : access n fRead <;> simp_all [Res.isValue]

/-- writing ANY attribute (in particular Value) of a node that lacks CurrentWrite
    is refused and leaves the node exactly as it was -/
theorem C31_write (n : Node) (attr : Nat) (d : DV) (h : lacks n fWrite = true) :
    ((nsSetAttribute n attr d).1 = .status .badUserAccessDenied ∨ (nsSetAttribute n attr d).1 = .panic) ∧
    (nsSetAttribute n attr d).2 = n := by
  have hne : access n fWrite ≠ .allow := by
    intro ha; rw [(C31_access_iff n fWrite).1 ha] at h; exact Bool.noConfusion h
  unfold nsSetAttribute
  cases ha : access n fWrite <;> simp_all

/-- the check is not vacuous: a node that does not lack CurrentRead returns
    its value, a node that does not lack CurrentWrite takes the new value -/
theorem C31_granted (n : Node) (d : DV) :
    (lacks n fRead = false → n.val ≠ .nilPtr → nsAttribute n aValue = (.value n.val, n)) ∧
    (lacks n fWrite = false → nsSetAttribute n aValue d = (.status .ok, { n with val := d })) := by
  constructor
  · intro h hv
    have ha := (C31_access_iff n fRead).2 h
    unfold nsAttribute
    rw [ha]
    cases hval : n.val <;> simp_all [aValue, aNodeID, aEventNotifier, aNodeClass]
  · intro h
    have ha := (C31_access_iff n fWrite).2 h
    simp [nsSetAttribute, ha, nodeSet]

/-- how the two levels combine — there is no precedence of one over the other as far as the
    verdict goes: access is granted iff BOTH present levels grant it; UserAccessLevel is merely
    looked at first, which only matters for which of two faults shows (a denial by
    UserAccessLevel hides a nil Variant in AccessLevel) -/
theorem C31_levels_combine (n : Node) (f : Nat) :
    (access n f = .allow ↔
      accessSlot (n.get aUserAccessLevel) f = .allow ∧ accessSlot (n.get aAccessLevel) f = .allow) ∧
    (accessSlot (n.get aUserAccessLevel) f = .deny → access n f = .deny) ∧
    (accessSlot (n.get aUserAccessLevel) f = .panic → access n f = .panic) ∧
    (accessSlot (n.get aUserAccessLevel) f = .allow → access n f = accessSlot (n.get aAccessLevel) f) := by
  unfold access
  cases h : accessSlot (n.get aUserAccessLevel) f <;> simp

/-- the frame of the property, explicit: the code applies the two levels to EVERY attribute (more
    than Part 3 asks: there they govern the Value attribute only), with the same verdict for all
    attributes; and an operation on another attribute, granted or not, neither reveals nor
    changes the value: the answer does not depend on the value slot and the value slot is kept -/
theorem C31_nonvalue_frame (n : Node) (attr : Nat) (d v' : DV) (hne : attr ≠ aValue) :
    -- same verdict for every attribute
    ((nsAttribute n attr).1 = .status .badUserAccessDenied ↔ (nsAttribute n aValue).1 = .status .badUserAccessDenied) ∧
    ((nsSetAttribute n attr d).1 = (nsSetAttribute n aValue d).1) ∧
    -- the value is not revealed …
    (nsAttribute { n with val := v' } attr).1 = (nsAttribute n attr).1 ∧
    -- … and not touched
    (nsAttribute n attr).2.val = n.val ∧ (nsSetAttribute n attr d).2.val = n.val := by
  refine ⟨by rw [nsAttribute_denied_iff, nsAttribute_denied_iff], ?_, ?_, nsAttribute_val n attr, ?_⟩
  · unfold nsSetAttribute
    cases access n fWrite <;> rfl
  · unfold nsAttribute
    rw [show access { n with val := v' } fRead = access n fRead from rfl]
    cases access n fRead <;> simp only []
    -- `.1` pushed through the `if`s and the two lookups: the sides differ only in the node, which `.1` drops
    simp only [hne, ↓reduceIte, Node.get, apply_ite Prod.fst]
    cases lookup n.attrs aNodeClass <;> cases lookup n.attrs attr <;> simp only [apply_ite Prod.fst]
  · unfold nsSetAttribute
    cases access n fWrite <;> simp [nodeSet, hne]

/-- the panic outcome needs a DataValue without a Variant in one of the two
    access attributes -/
theorem C31_panic_only_nil_variant (n : Node) (f : Nat) (h : access n f = .panic) :
    n.get aUserAccessLevel = .noVariant ∨ n.get aAccessLevel = .noVariant := by
  have slot : ∀ d : DV, accessSlot d f = .panic → d = .noVariant := by
    intro d hd
    cases d with
    | nilPtr => simp [accessSlot] at hd
    | noVariant => rfl
    | v ty p => by_cases h1 : ty = tyByte <;> by_cases h2 : p &&& f = 0 <;> simp [accessSlot, h1, h2] at hd
  unfold access at h
  cases hu : accessSlot (n.get aUserAccessLevel) f with
  | allow => rw [hu] at h; exact Or.inr (slot _ h)
  | deny => rw [hu] at h; cases h
  | panic => exact Or.inl (slot _ hu)

/-! ### histories -/

/-- the guard of the history theorem for node (i,k): the node lacks CurrentWrite
    at the start, or no request of the history writes one of its two access
    attributes -/
def guard (n : Node) (i k : Nat) (ops : List Op) : Prop :=
  lacks n fWrite = true ∨ ∀ op ∈ ops, op.rewritesAccess i k = false

/-- pairs (request, answer) of a history -/
def answers (sv : Server) (ops : List Op) : List (Op × Res) := ops.zip (run sv ops).1

/-- over whole request histories: if node (i,k) lacks CurrentRead at the start,
    and (guard) it also lacks CurrentWrite or nobody rewrites its access
    attributes, then no Value read of that node anywhere in the history returns
    a value -/
theorem C31_history_partial (ops : List Op) (sv : Server) (i k : Nat) (n : Node)
    (hn : sv.node i k = some n) (hr : lacks n fRead = true) (hg : guard n i k ops) :
    ∀ p ∈ answers sv ops, p.1.readsValue i k = true → p.2.isValue = false := by
  induction ops generalizing sv n with
  | nil => intro p hp; simp [answers, run_nil] at hp
  | cons op rest ih =>
    have hrest : (∀ o ∈ op :: rest, o.rewritesAccess i k = false) → ∀ o ∈ rest, o.rewritesAccess i k = false :=
      fun h o ho => h o (by simp [ho])
    -- the node after the step still lacks CurrentRead and satisfies the guard
    have hkeep : lacks (op.nodeAfter i k n) fRead = true ∧ guard (op.nodeAfter i k n) i k rest := by
      apply Op.nodeAfter_rule (P := fun m => lacks m fRead = true ∧ guard m i k rest) i k n op ⟨hr, hg.imp id hrest⟩
      · intro a
        have hc := core_read n a
        exact ⟨by rw [lacks_of_core hc]; exact hr, hg.imp (by rw [lacks_of_core hc]; exact id) hrest⟩
      · intro a d hop
        rcases hg with hlw | hno
        · rw [(C31_write n a d hlw).2]; exact ⟨hr, Or.inl hlw⟩
        · have hna : ¬ (a = aAccessLevel ∨ a = aUserAccessLevel) := by
            simpa [Op.rewritesAccess, hop] using hno op (by simp)
          obtain ⟨e1, e2⟩ := access_attrs_write n a d hna
          exact ⟨by simp only [lacks, e1, e2]; exact hr, Or.inr (hrest hno)⟩
    intro p hp hpr
    simp only [answers, run_cons, List.zip_cons_cons, List.mem_cons] at hp
    rcases hp with rfl | hp
    · -- the first request
      cases op with
      | write _ _ _ _ => simp [Op.readsValue] at hpr
      | read i' k' a =>
        simp only [Op.readsValue, decide_eq_true_eq] at hpr
        obtain ⟨rfl, rfl, rfl⟩ := hpr
        rw [step_read_fst sv _ _ _ n hn]; exact (C31_read n aValue hr).2.1
    · exact ih (step sv op).2 _ (by rw [step_node, hn]; rfl) hkeep.1 hkeep.2 p hp hpr

/-- over whole request histories: a node that lacks CurrentWrite keeps its value
    and both access attributes whatever clients send (reads of NodeClass may
    rewrite the stored NodeClass representation, nothing else) -/
theorem C31_history_frozen (ops : List Op) (sv : Server) (i k : Nat) (n : Node)
    (hn : sv.node i k = some n) (hw : lacks n fWrite = true) :
    ∃ n', (run sv ops).2.node i k = some n' ∧ core n' = core n := by
  induction ops generalizing sv n with
  | nil => exact ⟨n, hn, rfl⟩
  | cons op rest ih =>
    have hc : core (op.nodeAfter i k n) = core n :=
      Op.nodeAfter_rule (P := fun m => core m = core n) i k n op rfl (core_read n)
        fun a d _ => by rw [(C31_write n a d hw).2]
    obtain ⟨n', h1, h2⟩ := ih (step sv op).2 _ (by rw [step_node, hn]; rfl) (by rw [lacks_of_core hc]; exact hw)
    exact ⟨n', by simpa [run_cons] using h1, h2.trans hc⟩

/-- FINDING C31.client-rewrites-accesslevel — the guard is needed.  A write-only
    node (AccessLevel = CurrentWrite) holding 742: the client writes AccessLevel := 3
    through the Write service (accepted, the write path checks only CurrentWrite and
    never the attribute id), then reads the value it was denied before. -/
theorem C31_finding_client_rewrites_accesslevel :
    let n : Node := { attrs := [(aAccessLevel, .v tyByte 2)], val := .v tyInt32 742 }
    let sv : Server := fun i => if i = 1 then some (fun k => if k = 0 then some n else none) else none
    lacks n fRead = true ∧
    (run sv [.read 1 0 aValue, .write 1 0 aAccessLevel (.v tyByte 3), .read 1 0 aValue]).1 =
      [.status .badUserAccessDenied, .status .ok, .value (.v tyInt32 742)] := by
  decide

/-- the same escalation for a node without any access attribute is not even
    needed; and a client can also lock everybody out of a node (wrong type) -/
theorem C31_finding_client_locks_node :
    let n : Node := { attrs := [], val := .v tyInt32 5 }
    let sv : Server := fun i => if i = 1 then some (fun k => if k = 0 then some n else none) else none
    (run sv [.read 1 0 aValue, .write 1 0 aUserAccessLevel (.v tyUInt32 3), .read 1 0 aValue,
             .write 1 0 aUserAccessLevel (.v tyByte 3)]).1 =
      [.value (.v tyInt32 5), .status .ok, .status .badUserAccessDenied, .status .badUserAccessDenied] := by
  decide

/-- non-vacuity of the guard and of `lacks`: nodes of tests/go/server.go -/
example : lacks { attrs := [(aAccessLevel, .v tyByte 1), (aUserAccessLevel, .v tyByte 1)], val := .nilPtr } fRead = false ∧
    lacks { attrs := [(aAccessLevel, .v tyByte 1), (aUserAccessLevel, .v tyByte 1)], val := .nilPtr } fWrite = true ∧
    lacks { attrs := [(aAccessLevel, .v tyByte 0), (aUserAccessLevel, .v tyByte 0)], val := .nilPtr } fRead = true ∧
    lacks { attrs := [], val := .nilPtr } fRead = false ∧
    -- `ro_bool` of tests/go/server.go: UserAccessLevel is a uint32(1), the wrong type: nothing is allowed
    lacks { attrs := [(aUserAccessLevel, .v tyUInt32 1)], val := .nilPtr } fRead = true := by decide

end Opcua.Props.C31
