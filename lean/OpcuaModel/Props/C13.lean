import OpcuaModel.Model.Recv
import OpcuaModel.Model.RecvRaw
import OpcuaModel.Model.Gate
import OpcuaModel.Gen.RecvFacts
/-
  C13 — the channel receive path survives any peer byte stream.

  Model: `Raw.rawStep` — one frame through `Conn.Receive`, `readChunk` and the
  loop body of `Receive`, for any state (before / after open, client / server
  kind: `opening`, `chans`) and any configuration; crypto as an oracle carried
  by the frame (see Model/RecvRaw.lean).  The decoder (`ua.DecodeService`) is
  outside the model: what it does with hostile bytes is C02.

  * no panic: holds for every frame and state as soon as the receive buffer has
    at least 12 bytes — which, since `fix:` 30678c7, the handshake guarantees for
    every client connection whose own configuration is sane (`C13_nopanic_client`,
    with the handshake facts read from the source); a server connection uses its
    own configuration.  Below 12 bytes the path does panic
    (`C13_small_rcvbuf_*_direct`): reachable only through a `Conn` constructed
    directly with such a buffer size, no longer from a peer (the former findings
    C13.ack-small-rcvbuf / C13.ack-huge-rcvbuf are repaired).
  * progress: every frame produces exactly one outcome; only a panic or EOF
    ends the run.
  * memory: at most `MaxChunkCount` chunks and `rcvBuf · MaxChunkCount` payload
    bytes are retained PER MAP ENTRY (= per active request id); the
    bound independent of the number of request ids is FALSE: `n` intermediate
    chunks with `n` different ids are all kept (`C13_finding_unbounded_ids`).
  * two observations beside the property: an OPN frame can clobber the active
    instance of a server channel (`C13_opn_clobbers_active_instance`), and the
    client dispatcher's receive gate (`Model/Gate.lean`) is locked by any
    OpenSecureChannelResponse until an `open()` returns (`C13_gate_*`).
-/
namespace Opcua.Props.C13
open Opcua Opcua.Recv Opcua.Recv.Raw

/-- **No panic.**  With a receive buffer of at least 12 bytes (the protocol
    minimum is 8192) no frame — any bytes, any oracle verdict — in any state
    makes the receive path panic. -/
theorem C13_nopanic (cfg : RawCfg) (h : 12 ≤ cfg.rcvBuf) (st : RawSt) (f : Frame) :
    (rawStep cfg st f).2.isPanic = false :=
  rawStep_cases (P := fun r => r.2.isPanic = false) cfg st f
    (fun _ ho => ho) (fun h' => absurd h' (by omega)) rfl fun _ _ => rfl

/-- … so a whole run never panics -/
theorem C13_nopanic_run (cfg : RawCfg) (h : 12 ≤ cfg.rcvBuf) (st : RawSt) (fs : List Frame) :
    ∀ o ∈ runRaw cfg st fs, o.isPanic = false := by
  induction fs generalizing st with
  | nil => intro o ho; cases ho
  | cons f t ih =>
    intro o ho
    have hp := C13_nopanic cfg h st f
    unfold runRaw at ho
    split at ho
    · rename_i s heq; rw [heq] at hp; cases hp
    · simp at ho; rw [ho]; rfl
    · rename_i o' _ _
      rcases List.mem_cons.mp ho with rfl | ho
      · exact hp
      · exact ih _ o ho

/-- **No panic, client side (full strength).**  A client whose own Hello
    announces a receive buffer of 0 ("no preference") or at least 12 bytes, after
    a handshake that SUCCEEDED against any Acknowledge whatsoever, never panics
    on any frame in any state — provided the handshake refuses buffer sizes
    below some `minBuf ≥ 12`. -/
theorem C13_nopanic_client (minBuf : Nat) (capped : Bool) (hmin : 12 ≤ minBuf) (own ackRcv ackSnd b : Nat)
    (hown : own = 0 ∨ minBuf ≤ own) (hs : handshake minBuf capped own ackRcv ackSnd = some b)
    (cfg : RawCfg) (hcfg : cfg.rcvBuf = b) (st : RawSt) (f : Frame) :
    (rawStep cfg st f).2.isPanic = false := by
  have := handshake_lower hs hown
  exact C13_nopanic cfg (by omega) st f

/-- … instantiated with what the generator reads from `uacp.Conn.Handshake` of the
    current source (minimum 8192): the hypothesis `ReceiveBufSize ≥ 12` of
    `C13_nopanic` is discharged for every client connection with a sane own
    configuration -/
theorem C13_nopanic_client_current (own ackRcv ackSnd b : Nat)
    (hown : own = 0 ∨ Gen.RecvFacts.ackMinBufSize ≤ own)
    (hs : handshake Gen.RecvFacts.ackMinBufSize Gen.RecvFacts.ackRcvCappedByHello own ackRcv ackSnd = some b)
    (cfg : RawCfg) (hcfg : cfg.rcvBuf = b) (st : RawSt) (f : Frame) :
    (rawStep cfg st f).2.isPanic = false :=
  C13_nopanic_client _ _ (by decide) own ackRcv ackSnd b hown hs cfg hcfg st f

/-- the buffer a client allocates per frame is bounded by its own announcement:
    a hostile Acknowledge can no longer dictate it (former C13.ack-huge-rcvbuf) -/
theorem C13_client_rcvbuf_bounded (own ackRcv ackSnd b : Nat) (hown : own ≠ 0)
    (hcap : Gen.RecvFacts.ackRcvCappedByHello = true)
    (hs : handshake Gen.RecvFacts.ackMinBufSize Gen.RecvFacts.ackRcvCappedByHello own ackRcv ackSnd = some b) :
    b ≤ own := by
  rw [hcap] at hs
  exact handshake_upper hs hown

/-- the former witnesses are refused now: Acknowledge{4}, {10}; and 4294967295 is capped -/
theorem C13_hostile_ack_refused_or_capped :
    handshake Gen.RecvFacts.ackMinBufSize Gen.RecvFacts.ackRcvCappedByHello 65535 4 65535 = none ∧
    handshake Gen.RecvFacts.ackMinBufSize Gen.RecvFacts.ackRcvCappedByHello 65535 10 65535 = none ∧
    handshake Gen.RecvFacts.ackMinBufSize Gen.RecvFacts.ackRcvCappedByHello 65535 65535 100 = none ∧
    handshake Gen.RecvFacts.ackMinBufSize Gen.RecvFacts.ackRcvCappedByHello 65535 4294967295 65535 = some 65535 := by decide

/-- a `Conn` CONSTRUCTED DIRECTLY with `ReceiveBufSize < 8` (not reachable from a
    peer any more): `Conn.Receive` panics on its own buffer before it has read a byte -/
theorem C13_small_rcvbuf_conn_direct (cfg : RawCfg) (h : cfg.rcvBuf < 8) (st : RawSt) (f : Frame) :
    (rawStep cfg st f).2 = .panic .connSmallBuf := by
  simp [rawStep, h]

/-- likewise, constructed directly with `8 ≤ ReceiveBufSize < 12`: every frame of
    fewer than 12 bytes (other than ERR) makes `readChunk` panic in `b[:hdrlen]`;
    with a larger buffer the same frames are decode errors. -/
theorem C13_small_rcvbuf_header_direct (cfg : RawCfg) (h8 : 8 ≤ cfg.rcvBuf) (h12 : cfg.rcvBuf < 12)
    (st : RawSt) (f : Frame) (hl : f.raw.length < 12) (he : f.raw.take 3 ≠ tERR) :
    (rawStep cfg st f).2 = .panic .headerSlice := by
  have : ¬ cfg.rcvBuf < 8 := by omega
  simp [rawStep, this, he, hl, h12]

theorem C13_short_frame_is_error (cfg : RawCfg) (h12 : 12 ≤ cfg.rcvBuf)
    (st : RawSt) (f : Frame) (hl : f.raw.length < 12) (he : f.raw.take 3 ≠ tERR) :
    rawStep cfg st f = (st, .err .decodeChunk) := by
  have h1 : ¬ cfg.rcvBuf < 8 := by omega
  have h2 : ¬ cfg.rcvBuf < 12 := by omega
  simp [rawStep, h1, h2, he, hl]

/-- **Progress.**  Each frame is consumed by exactly one step: a run yields at
    most one outcome per frame, and exactly one per frame unless a panic or
    EOF ended it (there is no state in which a frame is neither consumed nor
    answered). -/
theorem C13_progress (cfg : RawCfg) (st : RawSt) (fs : List Frame) :
    (runRaw cfg st fs).length ≤ fs.length ∧
    ((∀ o ∈ runRaw cfg st fs, o.stops = false) → (runRaw cfg st fs).length = fs.length) := by
  induction fs generalizing st with
  | nil => simp [runRaw]
  | cons f t ih =>
    obtain ⟨i1, i2⟩ := ih (rawStep cfg st f).1
    unfold runRaw
    split
    · exact ⟨by simp, fun h => nomatch h _ (List.mem_singleton.mpr rfl)⟩
    · exact ⟨by simp, fun h => nomatch h _ (List.mem_singleton.mpr rfl)⟩
    · exact ⟨by simp; omega, fun h => by simp [i2 fun o ho => h o (List.mem_cons_of_mem _ ho)]⟩

/-- a stream of intermediate chunks is "useless but well-formed": every one of
    them is consumed with `continue` (the receiver goes on reading; it blocks
    only waiting for more bytes) -/
theorem C13_intermediate_consumed (cfg : Cfg) (b : Bufs) (c : Chunk) (hC : c.ct = ctC) :
    (step cfg b c).2 = .cont ∨ ∃ n, (step cfg b c).2 = .tooMany c.req n := by
  rw [step_snd, step1_inter cfg _ hC]
  split
  · exact Or.inr ⟨_, rfl⟩
  · exact Or.inl rfl

/-- **Memory (partial).**  While the chunk-count check is in force (limit not
    zero, or zero not meaning "unlimited"), after any chunk stream whatsoever
    the retained chunks number at most `MaxChunkCount` per map entry (= per
    active request id), and the retained payload at most
    `rcvBuf · MaxChunkCount` bytes per entry, `rcvBuf` bounding the payload of
    a chunk (a chunk never exceeds the receive buffer). -/
theorem C13_memory_partial (cfg : Cfg) (hact : limitActive cfg) (rcvBuf : Nat) (s : List Chunk)
    (hs : ∀ c ∈ s, c.data.length ≤ rcvBuf) :
    (runFinal cfg [] s).nchunks ≤ cfg.maxChunkCount * (runFinal cfg [] s).entries ∧
    (runFinal cfg [] s).held ≤ rcvBuf * cfg.maxChunkCount * (runFinal cfg [] s).entries := by
  have hB := run_boundedB rcvBuf cfg hact [] s hs (by intro e he; cases he)
  exact ⟨nchunks_le _ _ (fun e he => (hB e he).1), held_le _ _ _ hB⟩

/-- **Memory, exact constant (raw frames, unsecured channel).**  Whatever frames
    of at most `rcvBuf` bytes arrive, in any state reached from an empty table:
    every retained chunk carries at most `rcvBuf − 24` payload bytes (header 12,
    token id 4, sequence header 8), so the retained payload is at most
    `(rcvBuf − 24) · MaxChunkCount` bytes per active request id. -/
theorem C13_memory_exact (cfg : RawCfg) (hact : limitActive cfg.limits) (hsec : cfg.secure = false)
    (st : RawSt) (hst : st.bufs = []) (fs : List Frame) (hlen : ∀ f ∈ fs, f.raw.length ≤ cfg.rcvBuf) :
    (runRawFinal cfg st fs).bufs.held ≤
      (cfg.rcvBuf - 24) * cfg.limits.maxChunkCount * (runRawFinal cfg st fs).bufs.entries := by
  apply held_le
  apply runRaw_boundedB cfg hact hsec st fs hlen
  rw [hst]; intro e he; cases he

/-- the constant is attained: receive buffer 26, limit 2 — two intermediate
    chunks of request 5 with 2 payload bytes each: 4 = (26 − 24) · 2 · 1 bytes held -/
theorem C13_memory_exact_tight :
    (runRawFinal { rcvBuf := 26, limits := { maxChunkCount := 2, maxMessageSize := 100 }, secure := false }
      { bufs := [], opening := false, chans := [11] }
      [⟨[77,83,71,67, 26,0,0,0, 11,0,0,0, 22,0,0,0, 1,0,0,0, 5,0,0,0, 65,66], none, .ok⟩,
       ⟨[77,83,71,67, 26,0,0,0, 11,0,0,0, 22,0,0,0, 2,0,0,0, 5,0,0,0, 67,68], none, .ok⟩]).bufs.held = 4 := by decide

/-- **Release.**  A final chunk and an abort chunk release what was retained
    for their request id: afterwards nothing is buffered for it (in any state,
    for any limits) … -/
theorem C13_final_or_abort_releases (cfg : Cfg) (b : Bufs) (c : Chunk) (h : c.ct ≠ ctC) :
    (step cfg b c).1.get c.req = [] ∧ chunksBytes ((step cfg b c).1.get c.req) = 0 := by
  have : (step cfg b c).1.get c.req = [] := by
    rw [step_get_same]
    exact (step1_fst cfg _ c).resolve_right (fun h' => h h'.2.1)
  exact ⟨this, by rw [this]; rfl⟩

/-- … and so does an intermediate chunk that exceeds the chunk limit -/
theorem C13_too_many_releases (cfg : Cfg) (b : Bufs) (c : Chunk) (n : Nat)
    (h : (step cfg b c).2 = .tooMany c.req n) : (step cfg b c).1.get c.req = [] := by
  rw [step_get_same]
  rw [step_snd] at h
  exact (step1_fst cfg _ c).resolve_right (fun h' => by rw [h'.1] at h; cases h)

/-- FINDING C13.chunks-unbounded-ids: the bound does not hold independently of
    the number of request ids — for EVERY `n`, `n` intermediate chunks with
    `n` different request ids (no final chunk ever) are all retained, one map
    entry each; nothing ever removes them. -/
theorem C13_finding_unbounded_ids (cfg : Cfg) (hone : exceeds cfg.chunk0 1 cfg.maxChunkCount = false)
    (n : Nat) (payload : Bytes) :
    (runFinal cfg [] ((List.range n).map fun r => ⟨ctC, r + 1, r, payload⟩)).entries = n := by
  have := run_fresh_ids cfg hone ((List.range n).map fun r => ⟨ctC, r + 1, r, payload⟩)
    (fun c hc => by obtain ⟨r, -, rfl⟩ := List.mem_map.mp hc; rfl)
    (by rw [List.map_map]; exact (List.map_id _).symm ▸ List.nodup_range) [] (fun _ h => nomatch h)
  simpa [Bufs.entries] using this

/-- so no bound `K` on the number of entries (hence on retained memory) exists -/
theorem C13_full_memory_bound_false (cfg : Cfg) (hone : exceeds cfg.chunk0 1 cfg.maxChunkCount = false) :
    ¬ ∃ K, ∀ s : List Chunk, (runFinal cfg [] s).entries ≤ K := by
  intro ⟨K, hK⟩
  have := hK ((List.range (K + 1)).map fun r => ⟨ctC, r + 1, r, []⟩)
  rw [C13_finding_unbounded_ids cfg hone (K + 1) []] at this
  omega

/-- Observation (not counted as a finding of C13, see notes): once the state is
    `clobbered`, a properly sealed MSG chunk for a known channel id is refused
    on a secured channel.  (`rawStep` sets `clobbered` at an OPN frame that
    names a real policy with an acceptable RSA certificate on a channel with an
    opening instance — every server channel: `readChunk` overwrites the
    instance's algorithm before anything is verified.) -/
theorem C13_opn_clobbers_active_instance (cfg : RawCfg) (st : RawSt) (f : Frame) (c : Bytes)
    (h12 : 12 ≤ cfg.rcvBuf) (hsec : cfg.secure = true) (hclob : st.clobbered = true)
    (hlen : 16 ≤ f.raw.length) (hmsg : f.raw.take 3 = tMSG)
    (hchan : leVal ((f.raw.drop 8).take 4) ∈ st.chans) (ho : f.opens = some c) :
    rawStep cfg st f = (st, .err .security) := by
  have h1 : ¬ cfg.rcvBuf < 8 := by omega
  have h3 : ¬ f.raw.length < 12 := by omega
  simp [rawStep, verified, h1, h3, Nat.not_lt.mpr hlen, hmsg, tMSG, tERR, tOPN, tCLO, hchan, hsec, ho, hclob]

/-! ### the receive gate of the client dispatcher (hostile OpenSecureChannelResponse) -/

/-- Observation (a): a response whose body is an
    OpenSecureChannelResponse locks the receive gate whenever its request id has
    a handler — the dispatcher never checks that an `open()` is in flight for it.
    A server can therefore answer ANY ordinary request that way. -/
theorem C13_gate_locked_by_any_opn_response (st : Gate.St) (r : Gate.Resp) (rest : List Gate.Resp)
    (hopen : st.locked = false) (hq : st.queue = r :: rest) (hh : r.req ∈ st.handlers) (hopn : r.isOPN = true) :
    (Gate.step st .dispatch).locked = true := by
  simp [Gate.step, hopen, hq, hh, hopn]

/-- (b): from then on, whatever arrives and however many requests are sent,
    nothing is delivered to any handler and nothing is read from the socket
    until some `open()` returns or the channel is closed -/
theorem C13_gate_wedged (st : Gate.St) (evs : List Gate.Ev) (hl : st.locked = true)
    (hq : ∀ e ∈ evs, e.quiet = true) :
    (Gate.run st evs).delivered = st.delivered ∧ st.queue.length ≤ (Gate.run st evs).queue.length :=
  (Gate.wedged st evs hl hq).2

/-- … but not for ever: the next `open()` that returns — the scheduled renewal
    does, at the latest by its request timeout — reopens the gate and the
    dispatcher goes on with the queued responses -/
theorem C13_gate_reopens (st : Gate.St) (r : Gate.Resp) (rest : List Gate.Resp)
    (hq : st.queue = r :: rest) (hh : r.req ∈ st.handlers) :
    (Gate.run st [.openReturns, .dispatch]).delivered = r.req :: st.delivered := by
  simp [Gate.run, Gate.step, hq, hh]

/-- the scenario of the runner: request 1 answered with an
    OpenSecureChannelResponse, request 2 answered properly — its response is
    delivered only after `open()` has returned -/
theorem C13_gate_witness :
    (Gate.run {} [.register 1, .arrive ⟨1, true⟩, .dispatch, .register 2, .arrive ⟨2, false⟩, .dispatch, .dispatch]).delivered = [1] ∧
    (Gate.run {} [.register 1, .arrive ⟨1, true⟩, .dispatch, .register 2, .arrive ⟨2, false⟩, .dispatch, .openReturns,
                  .dispatch]).delivered = [2, 1] := by decide

/-! ### non-vacuity: raw frames on an open None-mode channel (channel id 11) -/

def cfgN : RawCfg := { rcvBuf := 65535, limits := { maxChunkCount := 2, maxMessageSize := 100 }, secure := false }
def stOpen : RawSt := { bufs := [], opening := false, chans := [11] }

/-- MSG C (req 5, seq 1, "A"), MSG F (req 5, seq 2, "B") → merged "AB";
    an 8-byte frame → decode error; wrong channel id → no instance; CLO → EOF -/
example :
    runRaw cfgN stOpen
      [⟨[77,83,71,67, 25,0,0,0, 11,0,0,0, 22,0,0,0, 1,0,0,0, 5,0,0,0, 65], none, .ok⟩,
       ⟨[77,83,71,70, 25,0,0,0, 11,0,0,0, 22,0,0,0, 2,0,0,0, 5,0,0,0, 66], none, .ok⟩,
       ⟨[77,83,71,70, 8,0,0,0], none, .ok⟩,
       ⟨[77,83,71,70, 24,0,0,0, 12,0,0,0, 22,0,0,0, 2,0,0,0, 5,0,0,0], none, .ok⟩,
       ⟨[67,76,79,70, 16,0,0,0, 11,0,0,0, 22,0,0,0], none, .ok⟩,
       ⟨[77,83,71,70, 8,0,0,0], none, .ok⟩] =
      [.out .cont, .out (.merged 5 [65, 66]), .err .decodeChunk, .err .noInstance, .eof] := by decide

end Opcua.Props.C13
