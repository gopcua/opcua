import OpcuaModel.Model.ChunkSpecLemmas
import OpcuaModel.Props.C07
/-
  C08 — secured chunks conform to the OPC UA Part 6 wire layout.

  Two independent definitions are related here:
    * implementation side `Chunk.signAndEncrypt` / `Chunk.verifyAndDecrypt`
      (`Model/Chunk.lean`, the statement-by-statement mirror of
      uasc/secure_channel_instance.go, tied to the code by the C07/C08
      differential runs), and
    * specification side `Spec.secureChunk` / `Spec.openChunk`
      (`Model/ChunkSpec.lean`, written from Part 6 §6.7.2: header, security header,
      sequence header inside the encrypted region, PaddingSize / Padding /
      ExtraPaddingSize, signature over header ‖ plaintext, encryption of
      everything after the security header).

  Symmetric chunks: every row of the regenerated policy table, every mode, any
  primitives satisfying `C07.CryptoOK`.  Asymmetric (OPN) chunks: ALL pairs of
  RSA key sizes and per-block overheads (`Chunk.asymParams`), any primitives
  satisfying `C07.AsymOK` (abstract per-block RSA).  Key derivation (the P_SHA
  clause of the property) is C14.
-/
namespace Opcua.Props.C08
open Opcua Opcua.Chunk Opcua.Spec

/-- the parts of a symmetric `MSG`/`CLO` chunk: the security header is the token id -/
def symParts (mt : Bytes) (flag : UInt8) (chan tok seq req : Nat) (body : Bytes) : Parts :=
  { msgType := mt, isFinal := flag, channelId := chan, secHeader := leBytes 4 tok, seqNum := seq,
    requestId := req, body := body }

/-- the specification's `rawChunk` of symmetric parts is what `EncodeChunks`
    writes (`Chunk.rawOf`, the object of the C07 theorems) -/
theorem C08_raw_is_encodeChunks (mt : Bytes) (flag : UInt8) (chan tok seq req : Nat) (body : Bytes) :
    rawChunk (symParts mt flag chan tok seq req body) = rawOf ⟨mt, chan, tok, 0, req⟩ flag seq body := by
  simp [rawChunk, symParts, rawOf, hdr24, Spec.header, sequenceHeader, u32, List.append_assoc]

/-- LAYOUT, symmetric: for every policy row, mode, contents — `signAndEncrypt`
    emits byte for byte the chunk the specification describes (or fails exactly
    when a primitive fails). -/
theorem C08_layout_sym (a : AlgoParams) (ha : a ∈ Gen.symmetricRows) (m : Mode) (pn : Bool) (c : Crypto)
    (mt : Bytes) (h3 : mt.length = 3) (flag : UInt8) (chan tok seq req : Nat) (body : Bytes) :
    signAndEncrypt ⟨m, pn, a, c⟩ false 16 (rawChunk (symParts mt flag chan tok seq req body)) =
      toRes (secureChunk (suiteOf ⟨m, pn, a, c⟩) (decide (m ≠ .none)) (decide (m ≠ .none) && decide (m = .signAndEncrypt))
        (symParts mt flag chan tok seq req body) 0) := by
  have hpos : 0 < a.plaintextBlockSize.toNat := by
    obtain ⟨hb, hpl, -⟩ := C38.C38_rows_ok a ha; omega
  have := signAndEncrypt_eq_spec ⟨m, pn, a, c⟩ false (symParts mt flag chan tok seq req body) h3 hpos
  simpa [symParts, Side.encrypts] using this

/-- LAYOUT of `CLO` (CloseSecureChannel) chunks: the instance of
    `C08_layout_sym` for message type "CLO" — same symmetric layout as `MSG`
    (the theorem is for every 3-byte message type).  A `CLO` is a single final
    chunk; on the receiving side `readChunk` ends the connection (`io.EOF`)
    without opening it (`Chunk.readChunk`, C07). -/
theorem C08_layout_clo (a : AlgoParams) (ha : a ∈ Gen.symmetricRows) (m : Mode) (pn : Bool) (c : Crypto)
    (chan tok seq req : Nat) (body : Bytes) :
    signAndEncrypt ⟨m, pn, a, c⟩ false 16 (rawChunk (symParts typeCLO chunkF chan tok seq req body)) =
      toRes (secureChunk (suiteOf ⟨m, pn, a, c⟩) (decide (m ≠ .none)) (decide (m ≠ .none) && decide (m = .signAndEncrypt))
        (symParts typeCLO chunkF chan tok seq req body) 0) :=
  C08_layout_sym a ha m pn c typeCLO rfl chunkF chan tok seq req body

/-- LAYOUT, asymmetric: for ALL key-size pairs and overheads, any security
    header bytes and any body — the same equality for `OPN` chunks (always
    encrypted), in the request direction (client → server) and the response
    direction (server → client) alike: the layout does not depend on the service. -/
theorem C08_layout_asym (ls rs pad : Nat) (hpad : pad < rs) (m : Mode) (pn : Bool) (c : Crypto)
    (p : Parts) (h3 : p.msgType.length = 3) :
    signAndEncrypt ⟨m, pn, asymParams ls rs pad, c⟩ true (12 + p.secHeader.length) (rawChunk p) =
      toRes (secureChunk (suiteOf ⟨m, pn, asymParams ls rs pad, c⟩) (decide (m ≠ .none)) (decide (m ≠ .none)) p 0) := by
  have hpos : 0 < (asymParams ls rs pad).plaintextBlockSize.toNat := by
    simp only [asymParams]; omega
  have := signAndEncrypt_eq_spec ⟨m, pn, asymParams ls rs pad, c⟩ true p h3 hpos
  simpa [Side.encrypts] using this

/-- CONFORMANCE, symmetric, modes Sign and SignAndEncrypt: the emitted chunk is
    the specification's chunk; a receiver that follows the specification (with
    the peer's primitives) recovers SequenceHeader ‖ Body from it; gopcua's own
    receiver does too. -/
theorem C08_conformance_sym (a : AlgoParams) (ha : a ∈ Gen.symmetricRows) (m : Mode) (hm : m ≠ .none)
    (pS pR : Bool) (cS cR : Crypto) (hc : C07.CryptoOK a cS cR)
    (mt : Bytes) (h3 : mt.length = 3) (flag : UInt8) (chan tok seq req : Nat) (body : Bytes) :
    ∃ w, signAndEncrypt ⟨m, pS, a, cS⟩ false 16 (rawChunk (symParts mt flag chan tok seq req body)) = .ok w ∧
      secureChunk (suiteOf ⟨m, pS, a, cS⟩) true (decide (m = .signAndEncrypt)) (symParts mt flag chan tok seq req body) 0 = some w ∧
      (w.length < 4294967296 →
        openChunk (recvSuiteOf ⟨m, pR, a, cR⟩) true (decide (m = .signAndEncrypt)) 16 w =
          some (leBytes 4 seq ++ leBytes 4 req ++ body)) ∧
      verifyAndDecrypt ⟨m, pR, a, cR⟩ false 16 w = .ok (leBytes 4 seq ++ leBytes 4 req ++ body) := by
  have := conformance (C07.paired_of_row a ha m pS pR cS cR hc) false hm (symParts mt flag chan tok seq req body) h3
  simpa [symParts, Side.encrypts, sequenceHeader] using this

/-- CONFORMANCE, asymmetric (`OPN`), for ALL key-size pairs: sender with key
    size `ls`, receiver with key size `rs` (the receiver's side has the sizes
    swapped). -/
theorem C08_conformance_asym (ls rs pad : Nat) (hpad : pad < rs) (hrs : rs ≤ 65536) (m : Mode) (hm : m ≠ .none)
    (pS pR : Bool) (cS cR : Crypto) (hc : C07.AsymOK ls rs pad cS cR) (p : Parts) (h3 : p.msgType.length = 3) :
    ∃ w, signAndEncrypt ⟨m, pS, asymParams ls rs pad, cS⟩ true (12 + p.secHeader.length) (rawChunk p) = .ok w ∧
      secureChunk (suiteOf ⟨m, pS, asymParams ls rs pad, cS⟩) true true p 0 = some w ∧
      (w.length < 4294967296 →
        openChunk (recvSuiteOf ⟨m, pR, asymParams rs ls pad, cR⟩) true true (12 + p.secHeader.length) w =
          some (sequenceHeader p ++ p.body)) ∧
      verifyAndDecrypt ⟨m, pR, asymParams rs ls pad, cR⟩ true (12 + p.secHeader.length) w =
        .ok (sequenceHeader p ++ p.body) := by
  have := conformance (C07.paired_asym ls rs pad hpad hrs m pS pR cS cR hc) true hm p h3
  simpa [Side.encrypts] using this

/-- CONFORMANCE OF THE EXECUTED INSTANCE: `C08_conformance_sym` for the
    primitives the drivers actually run (proved CBC over the reference AES block
    functions, reference HMAC, keys by the model of `uapolicy.Symmetric`); the
    only cryptographic assumptions left are the AES block inverse and the HMAC
    output length (`C07.AesBlockOK`, `C07.HmacLenOK`). -/
theorem C08_conformance_reference (a : AlgoParams) (ka : Keys.KeyAssign)
    (hk : (a, ka) ∈ Gen.symmetricRows.zip Gen.keyAssignRows) (hlen : C07.HmacLenOK) (haes : C07.AesBlockOK)
    (x y : Bytes) (m : Mode) (hm : m ≠ .none)
    (mt : Bytes) (h3 : mt.length = 3) (flag : UInt8) (chan tok seq req : Nat) (body : Bytes) :
    ∃ w, signAndEncrypt ⟨m, false, a, ChunkRef.refCrypto ka (Keys.symmetric ka CryptoRef.hmac x y)⟩ false 16
          (rawChunk (symParts mt flag chan tok seq req body)) = .ok w ∧
      (w.length < 4294967296 →
        openChunk (recvSuiteOf ⟨m, false, a, ChunkRef.refCrypto ka (Keys.symmetric ka CryptoRef.hmac y x)⟩) true
          (decide (m = .signAndEncrypt)) 16 w = some (leBytes 4 seq ++ leBytes 4 req ++ body)) ∧
      verifyAndDecrypt ⟨m, false, a, ChunkRef.refCrypto ka (Keys.symmetric ka CryptoRef.hmac y x)⟩ false 16 w =
        .ok (leBytes 4 seq ++ leBytes 4 req ++ body) := by
  obtain ⟨w, h1, -, h2, h4⟩ := C08_conformance_sym a (List.of_mem_zip hk).1 m hm false false _ _
    (C07.C07_reference_crypto_ok a ka hk hlen haes x y) mt h3 flag chan tok seq req body
  exact ⟨w, h1, h2, h4⟩

/-- ACCEPTS EVERY SPECIFICATION CHUNK, symmetric SignAndEncrypt: also when the
    peer pads with `k` additional whole blocks (as long as the count fits its
    byte), gopcua's receiver returns SequenceHeader ‖ Body. -/
theorem C08_accepts_spec_sym (a : AlgoParams) (ha : a ∈ Gen.symmetricRows) (pS pR : Bool) (cS cR : Crypto)
    (hc : C07.CryptoOK a cS cR) (mt : Bytes) (h3 : mt.length = 3) (flag : UInt8) (chan tok seq req : Nat)
    (body : Bytes) (k : Nat)
    (hk : paddingSize (suiteOf ⟨.signAndEncrypt, pS, a, cS⟩) (8 + body.length) k < 256) :
    ∃ w, secureChunk (suiteOf ⟨.signAndEncrypt, pS, a, cS⟩) true true (symParts mt flag chan tok seq req body) k = some w ∧
      verifyAndDecrypt ⟨.signAndEncrypt, pR, a, cR⟩ false 16 w = .ok (leBytes 4 seq ++ leBytes 4 req ++ body) := by
  have hx : (suiteOf ⟨.signAndEncrypt, pS, a, cS⟩).extraPadding = false :=
    decide_eq_false (Int.not_lt.mpr (C38.C38_rows_ok a ha).2.2.2.2)
  obtain ⟨w, h1, -, h2⟩ := secureChunk_opened (C07.paired_of_row a ha .signAndEncrypt pS pR cS cR hc) false (by simp)
    (symParts mt flag chan tok seq req body) h3 k (fun _ => by
      have e : (sequenceHeader (symParts mt flag chan tok seq req body) ++ (symParts mt flag chan tok seq req body).body).length = 8 + body.length := by
        simp [symParts, sequenceHeader]; omega
      rw [e, hx]; exact hk)
  exact ⟨w, h1, by simpa [symParts, sequenceHeader] using h2⟩

/-- `C08_accepts_spec_sym` for `OPN` chunks, ALL key-size pairs: also with `k` additional blocks
    of padding, as long as the count fits its one or two bytes. -/
theorem C08_accepts_spec_asym (ls rs pad : Nat) (hpad : pad < rs) (hrs : rs ≤ 65536) (m : Mode) (hm : m ≠ .none)
    (pS pR : Bool) (cS cR : Crypto) (hc : C07.AsymOK ls rs pad cS cR) (p : Parts) (h3 : p.msgType.length = 3) (k : Nat)
    (hk : paddingSize (suiteOf ⟨m, pS, asymParams ls rs pad, cS⟩) (sequenceHeader p ++ p.body).length k <
      countBound (suiteOf ⟨m, pS, asymParams ls rs pad, cS⟩).extraPadding) :
    ∃ w, secureChunk (suiteOf ⟨m, pS, asymParams ls rs pad, cS⟩) true true p k = some w ∧
      verifyAndDecrypt ⟨m, pR, asymParams rs ls pad, cR⟩ true (12 + p.secHeader.length) w =
        .ok (sequenceHeader p ++ p.body) := by
  have := secureChunk_opened (C07.paired_asym ls rs pad hpad hrs m pS pR cS cR hc) true hm p h3 k (fun _ => hk)
  simp only [Side.encrypts, Bool.or_true] at this
  obtain ⟨w, h1, -, h2⟩ := this
  exact ⟨w, h1, h2⟩

/-- non-vacuity / a concrete picture of the layout: null cipher, 16-byte blocks,
    3-byte body: SequenceHeader(8) ‖ Body(3) ‖ PaddingSize=4 ‖ 4 × 04, total 16. -/
example : secureChunk ⟨16, 16, 0, false, C07.nullCrypto⟩ true true
    ⟨typeMSG, chunkF, 1, [9, 0, 0, 0], 2, 3, [0xaa, 0xbb, 0xcc]⟩ 0 =
    some ([77, 83, 71, 70, 32, 0, 0, 0, 1, 0, 0, 0, 9, 0, 0, 0] ++
      [2, 0, 0, 0, 3, 0, 0, 0, 0xaa, 0xbb, 0xcc, 4, 4, 4, 4, 4]) := by decide

end Opcua.Props.C08
