import OpcuaModel.Model.Recv
import OpcuaModel.Model.RecvSpec
import OpcuaModel.Model.RecvBridge
/-
  C12 — chunk streams from any conforming peer are reassembled correctly.

  Model: `Recv.step` (the loop body of `SecureChannel.Receive` after
  `readChunk`, with `mergeChunks` and both limit checks), tied to the code by
  the C12 correspondence run (hook `VerifMergeChunks` and the real `Receive` on
  a None-mode channel fed by a reference chunk writer over TCP).
  Specification: `Recv.Spec` — messages split into chunks, any interleaving by
  request id, aborts, any conforming numbering.

  Since the repair of C12.merge-drops-seq0 (`mergeChunks` always keeps the first
  chunk) the property holds at full strength: `C12_reassemble` needs nothing but
  conformance — limits respected, per-request-id sub-streams are the messages'
  chunk sequences, numbering as Part 6 prescribes (start anywhere, +1, wrap to
  any value below 1024, 0 included) — for every stream shorter than one full
  numbering cycle (4294965249 chunks).  The former counterexamples are kept as
  regression theorems (`C12_seq0_*`).
-/
namespace Opcua.Props.C12
open Opcua Opcua.Recv Opcua.Recv.Spec

/-- **Reassembly (partial).**  `msgs` are messages within the negotiated limits
    that satisfy the guard; `stream` is any chunk stream whose sub-stream per
    request id is the chunk sequence of the message with that id (that is: any
    interleaving of the messages' chunks) and the table holds nothing for these
    ids.  Then `Receive` returns, chunk by chunk, exactly what the specification
    prescribes — nothing for intermediate chunks, the complete body for the
    final chunk of a message, the abort status for an abort chunk — it ends
    with nothing buffered for these ids and never touches other ids. -/
theorem C12_reassemble_partial (cfg : Cfg) (msgs : List SMsg) (stream : List Chunk) (bufs : Bufs)
    (hfit : ∀ m ∈ msgs, m.fits cfg) (hguard : ∀ m ∈ msgs, m.noDrop)
    (hcover : ∀ c ∈ stream, ∃ m ∈ msgs, m.req = c.req)
    (hproj : ∀ m ∈ msgs, stream.filter (fun c => c.req == m.req) = m.chunks)
    (hfresh : ∀ m ∈ msgs, bufs.get m.req = []) :
    runOuts cfg bufs stream = stream.map (specOut msgs) ∧
    (∀ m ∈ msgs, (runFinal cfg bufs stream).get m.req = []) ∧
    (∀ r, (∀ m ∈ msgs, m.req ≠ r) → (runFinal cfg bufs stream).get r = bufs.get r) := by
  apply run_spec cfg msgs hfit hguard stream bufs hcover
  intro m hm
  rw [hproj m hm, hfresh m hm]
  exact good_start m

/-- what reaches the service decoder is, in the order of the final chunks, the
    complete body of every message that was not aborted — "delivered stream =
    messages minus aborted" -/
theorem C12_delivered_partial (cfg : Cfg) (msgs : List SMsg) (stream : List Chunk) (bufs : Bufs)
    (hfit : ∀ m ∈ msgs, m.fits cfg) (hguard : ∀ m ∈ msgs, m.noDrop)
    (hcover : ∀ c ∈ stream, ∃ m ∈ msgs, m.req = c.req)
    (hproj : ∀ m ∈ msgs, stream.filter (fun c => c.req == m.req) = m.chunks)
    (hfresh : ∀ m ∈ msgs, bufs.get m.req = []) :
    delivered (runOuts cfg bufs stream) = delivered (stream.map (specOut msgs)) := by
  rw [(C12_reassemble_partial cfg msgs stream bufs hfit hguard hcover hproj hfresh).1]

/-- **Reassembly (full strength).**  Any stream a conforming peer may send:
    messages within the limits, any interleaving, aborts, and a numbering as
    Part 6 prescribes — any start value (0 included), +1 per chunk, wrap-around
    to any value below 1024 (0 included) once 4294966271 is passed — over fewer
    chunks than one full numbering cycle.  `Receive` returns chunk by chunk what
    the specification prescribes and ends with empty buffers. -/
theorem C12_reassemble (cfg : Cfg) (msgs : List SMsg) (stream : List Chunk) (bufs : Bufs)
    (hfit : ∀ m ∈ msgs, m.fits cfg)
    (hnum : Numbered (stream.map (·.seq))) (hlen : stream.length ≤ 4294965249)
    (hcover : ∀ c ∈ stream, ∃ m ∈ msgs, m.req = c.req)
    (hproj : ∀ m ∈ msgs, stream.filter (fun c => c.req == m.req) = m.chunks)
    (hfresh : ∀ m ∈ msgs, bufs.get m.req = []) :
    runOuts cfg bufs stream = stream.map (specOut msgs) ∧
    (∀ m ∈ msgs, (runFinal cfg bufs stream).get m.req = []) ∧
    (∀ r, (∀ m ∈ msgs, m.req ≠ r) → (runFinal cfg bufs stream).get r = bufs.get r) := by
  have hnd : (stream.map (·.seq)).Nodup := numbered_nodup hnum (by simpa using hlen)
  exact C12_reassemble_partial cfg msgs stream bufs hfit
    (fun m hm => noDrop_of_nodup m stream (hproj m hm) hnd) hcover hproj hfresh

/-- "delivered stream = messages minus aborted" for conforming streams -/
theorem C12_delivered (cfg : Cfg) (msgs : List SMsg) (stream : List Chunk) (bufs : Bufs)
    (hfit : ∀ m ∈ msgs, m.fits cfg)
    (hnum : Numbered (stream.map (·.seq))) (hlen : stream.length ≤ 4294965249)
    (hcover : ∀ c ∈ stream, ∃ m ∈ msgs, m.req = c.req)
    (hproj : ∀ m ∈ msgs, stream.filter (fun c => c.req == m.req) = m.chunks)
    (hfresh : ∀ m ∈ msgs, bufs.get m.req = []) :
    delivered (runOuts cfg bufs stream) = delivered (stream.map (specOut msgs)) := by
  rw [(C12_reassemble cfg msgs stream bufs hfit hnum hlen hcover hproj hfresh).1]

/-- the bound on the length is about the numbering only: a conforming numbering
    never repeats a number within 4294965249 chunks -/
theorem C12_numbering_nodup (l : List Nat) (h : Numbered l) (hlen : l.length ≤ 4294965249) : l.Nodup :=
  numbered_nodup h hlen

/-- abort chunks cancel only their own request: a step for request id `c.req`
    leaves the buffer of every other id as it was (any chunk, any state) -/
theorem C12_other_ids_untouched (cfg : Cfg) (bufs : Bufs) (c : Chunk) (r : Nat) (h : r ≠ c.req) :
    (step cfg bufs c).1.get r = bufs.get r :=
  step_get_other cfg bufs c h

/-! ### regression: the former finding C12.merge-drops-seq0 (repaired) -/

/-- witness message: request 7, chunks `C seq0 "AA"`, `F seq1 "BB"` -/
def w0 : SMsg := { req := 7, inter := [(0, [65, 65])], lastSeq := 1, last := [66, 66], abort := false }
/-- the same after a wrap-around: numbers 4294967295, 0, 1 (a single-chunk
    message of request 6 first) -/
def w1a : SMsg := { req := 6, inter := [], lastSeq := 4294967295, last := [90, 90], abort := false }
def w1b : SMsg := { req := 7, inter := [(0, [65, 65])], lastSeq := 1, last := [66, 66], abort := false }

def cfg0 : Cfg := { maxChunkCount := 512, maxMessageSize := 2097152 }

/-- numbering 0,1 from the start of the channel: the body "AABB" is delivered
    (before the repair: "BB") -/
theorem C12_seq0_start :
    Numbered (w0.chunks.map (·.seq)) ∧ w0.fits cfg0 ∧
    runOuts cfg0 [] w0.chunks = [.cont, .merged 7 [65, 65, 66, 66]] := by decide

/-- wrap-around 4294967295 → 0 -/
theorem C12_seq0_wrap :
    Numbered ((w1a.chunks ++ w1b.chunks).map (·.seq)) ∧
    runOuts cfg0 [] (w1a.chunks ++ w1b.chunks) = [.merged 6 [90, 90], .cont, .merged 7 [65, 65, 66, 66]] := by decide

/-- in general: the first chunk of a message is always part of the merged body -/
theorem C12_first_chunk_kept (c d : Chunk) (t : List Chunk) :
    mergeChunks (c :: d :: t) = c.data ++ mergeLoop c.seq (d :: t) := mergeChunks_cons c _

/-- what the duplicate filter still does (and a conforming peer never triggers):
    a chunk repeating its predecessor's number is skipped -/
theorem C12_repeated_number_skipped (c d : Chunk) (t : List Chunk) (h : d.seq = c.seq) :
    mergeChunks (c :: d :: t) = mergeChunks (c :: t) :=
  mergeChunks_skip [] c d t h

/-! ### the whole stack: interleaved sessions on the byte level (C07's model)

  `Chunk.sendSession` (C07, `Model/Chunk.lean`) is the byte-level sender: service
  bodies → chunks → sequence numbers → signed / encrypted wire chunks.  Several
  sessions with pairwise different request ids write to one channel; their chunk
  streams may interleave in any way.  `RecvBridge.noninterference` (the
  per-request-id locality of `Chunk.receiveStep`) and `Chunk.session_ok` (the
  session round trip with the per-chunk facts) give: what `Receive` returns for
  the chunks of session `k` is exactly the list of session `k`'s messages. -/

open Opcua.Chunk Opcua.RecvBridge in
/-- **Interleaved sessions through the whole receive stack.**  `sessions` =
    start counter and messages (request id, body) of each sender; `s` = ANY
    interleaving of their wire streams (every chunk tagged with its session;
    `stream k s` is what session `k` wrote, in order).  Request ids of different
    sessions are different, every message respects the receiver's limits and
    has nothing buffered.  Then, for every session `k`, the non-`continue`
    results `Receive` produces at the chunks of session `k` are exactly that
    session's messages, in order, with their request ids, channel id and bodies. -/
theorem C12_stack_interleaved {S R : Side} (hp : Paired S R) (insts : Nat → List Side) (lim : Limits)
    (maxBody : Nat) (hmb : 0 < maxBody) (chan tok : Nat) (hc : chan < 4294967296)
    (hi : ∃ rest, (insts chan).reverse = R :: rest)
    (sessions : List (Int × List (Nat × Bytes))) (t : Table)
    (hm : ∀ ss ∈ sessions, SeqInv ss.1 ∧ ∀ m ∈ ss.2, m.1 < 4294967296 ∧ m.2.length < 4294967296 ∧ t m.1 = [] ∧
      (lim.maxChunkCount = 0 ∨ m.2.length / maxBody ≤ lim.maxChunkCount) ∧
      (lim.maxMessageSize = 0 ∨ m.2.length ≤ lim.maxMessageSize))
    (hdis : ∀ (i j : Nat) (hi' : i < sessions.length) (hj : j < sessions.length), i ≠ j →
      ∀ a ∈ sessions[i].2, ∀ b ∈ sessions[j].2, a.1 ≠ b.1)
    (s : List (Nat × Bytes)) (htag : ∀ x ∈ s, x.1 < sessions.length)
    (hstream : ∀ (k : Nat) (hk : k < sessions.length), ∃ seq',
      sendSession S maxBody chan tok sessions[k].1 sessions[k].2 = (seq', .ok (stream k s))) :
    ∀ (k : Nat) (hk : k < sessions.length),
      (((outsTagged insts lim t s).filter (fun o => o.1 == k)).map (·.2)).filterMap id =
        sessions[k].2.map (fun m => .ok ⟨m.1, chan, m.2⟩) := by
  -- `stream j s` is what session `j` sends: alone it comes back whole, and its chunks carry its request ids
  have hsess : ∀ (j : Nat) (hj : j < sessions.length),
      receiveMany insts lim (stream j s).length t (stream j s) = sessions[j].2.map (fun m => .ok ⟨m.1, chan, m.2⟩) ∧
      ∀ x ∈ s, x.1 = j → ∀ r, reqOf insts x.2 = some r → r ∈ sessions[j].2.map (·.1) := by
    intro j hj
    obtain ⟨hinv, hmj⟩ := hm sessions[j] (List.getElem_mem hj)
    obtain ⟨wire, sq', h1, -, -, hrt, hf⟩ :=
      session_ok hp insts lim maxBody hmb chan tok hc hi sessions[j].2 t hmj sessions[j].1 hinv
    obtain ⟨sq, hs⟩ := hstream j hj
    cases h1.symm.trans hs
    refine ⟨hrt _ (Nat.le_refl _), fun x hx hxj r hr => ?_⟩
    obtain ⟨c, hW, -, hreq⟩ := hf x.2 (List.mem_map.mpr ⟨x, List.mem_filter.mpr ⟨hx, by simp [hxj]⟩, rfl⟩)
    rw [reqOf_wire hW] at hr
    cases hr
    exact hreq
  intro k hk
  -- request ids of different sessions differ, so the other sessions' chunks do not interfere
  rw [noninterference insts lim k (fun r => r ∈ sessions[k].2.map (·.1)) s t t (hsess k hk).2
    (by
      intro x hx hxk r hr hin
      have hj := htag x hx
      obtain ⟨a, ha, ha'⟩ := List.mem_map.mp hin
      obtain ⟨b, hb, hb'⟩ := List.mem_map.mp ((hsess x.1 hj).2 x hx rfl r hr)
      exact hdis k x.1 hk hj (fun e => hxk e.symm) a ha b hb (by rw [ha', hb']))
    (fun _ _ => rfl),
    ← receiveMany_eq_outs insts lim _ t _ (Nat.le_refl _)]
  exact (hsess k hk).1

/-! ### non-vacuity: interleaved messages, an abort, numbering across a wrap to 5 -/

def e1 : SMsg := { req := 1, inter := [(4294967294, [97, 98]), (5, [99, 100])], lastSeq := 7, last := [101, 102], abort := false }
def e2 : SMsg := { req := 2, inter := [(4294967295, [120, 120])], lastSeq := 6, last := [1, 0, 0x80, 0x80, 0, 0, 0, 0], abort := true }
def e3 : SMsg := { req := 3, inter := [], lastSeq := 8, last := [115, 105, 110, 103, 108, 101], abort := false }
def estream : List Chunk :=
  [⟨ctC, 4294967294, 1, [97, 98]⟩, ⟨ctC, 4294967295, 2, [120, 120]⟩, ⟨ctC, 5, 1, [99, 100]⟩,
   ⟨ctA, 6, 2, [1, 0, 0x80, 0x80, 0, 0, 0, 0]⟩, ⟨ctF, 7, 1, [101, 102]⟩, ⟨ctF, 8, 3, [115, 105, 110, 103, 108, 101]⟩]

example : Numbered (estream.map (·.seq)) ∧
    (∀ m ∈ [e1, e2, e3], m.fits cfg0 ∧ estream.filter (fun c => c.req == m.req) = m.chunks) ∧
    runOuts cfg0 [] estream =
      [.cont, .cont, .cont, .abort 2 0x80800001, .merged 1 [97, 98, 99, 100, 101, 102], .merged 3 [115, 105, 110, 103, 108, 101]] ∧
    runFinal cfg0 [] estream = [] := by decide

end Opcua.Props.C12
