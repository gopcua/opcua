import OpcuaModel.Model.SecureLenLemmas
import OpcuaModel.Gen.Policies
/-
  C38 — a maximal chunk body always fits the negotiated chunk size.

  `Gen.setMaximumBodySize` is the machine translation of
  `channelInstance.SetMaximumBodySize`, `Gen.symmetricRows` the parameter table
  the policy constructors compute, `secureLen` the hand model of
  `signAndEncrypt` (tied by the C38 correspondence run).

  The theorems are stated for EVERY parameter row satisfying the decidable
  side condition `RowOk` (a 16-byte block cipher without block overhead, or the
  null cipher; any signature length up to 1024 bytes), for every chunk size
  ≥ 8192 (unbounded below 2^32, the wire type) and every body size; `C38_rows_ok`
  shows by evaluation that every row of the regenerated table satisfies it, and
  the `C38_table_*` corollaries instantiate them for the table.
-/
namespace Opcua.Props.C38
open Opcua

/-- the body size the channel places in one chunk -/
def maxBody (a : AlgoParams) (cs : Int) : Int := Gen.setMaximumBodySize a cs

/-- side condition on a symmetric parameter row (decidable) -/
def RowOk (a : AlgoParams) : Prop :=
  (a.blockSize = 16 ∨ a.blockSize = 1) ∧ a.plaintextBlockSize = a.blockSize ∧
  0 ≤ a.signatureLength ∧ a.signatureLength ≤ 1024 ∧ a.remoteSignatureLength ≤ 256

instance (a : AlgoParams) : Decidable (RowOk a) := by unfold RowOk; infer_instance

theorem RowOk.blockRow {a : AlgoParams} (h : RowOk a) : BlockRow a :=
  ⟨by have := h.1; omega, h.2.1, h.2.2.1, h.2.2.2.2⟩

/-- a chunk size of the protocol minimum 8192 has room for the headers and one block -/
theorem room_of_rowOk {a : AlgoParams} (h : RowOk a) {cs : Int} (hcs : 8192 ≤ cs) :
    16 + a.blockSize + 9 + a.signatureLength < cs := by
  have := h.1; have := h.2.2.2.1; omega

theorem maxBody_eq {a : AlgoParams} (ha : RowOk a) {cs : Int} (h : 8192 ≤ cs) (hcs : cs < 4294967296) :
    maxBody a cs = blockFloor a.blockSize (cs - 16) - 9 - a.signatureLength :=
  setMaximumBodySize_eq ha.blockRow (Int.le_of_lt (room_of_rowOk ha h)) hcs

theorem C38_rows_ok : ∀ a ∈ Gen.symmetricRows, RowOk a := by decide

/-- what else is read off the table: both directions sign alike, with at most 32 bytes -/
theorem rows_sig : ∀ a ∈ Gen.symmetricRows,
    a.remoteSignatureLength = a.signatureLength ∧ a.signatureLength ≤ 32 := by decide

/-- the maximal body is a sensible number: positive and below the chunk size
    (in particular the `uint32` conversion in the code never wraps) -/
theorem C38_maxBody_range (a : AlgoParams) (ha : RowOk a) (cs : Int) (h : 8192 ≤ cs)
    (hcs : cs < 4294967296) :
    0 < maxBody a cs ∧ maxBody a cs < cs :=
  setMaximumBodySize_range ha.blockRow (room_of_rowOk ha h) hcs

/-- every body up to the maximum yields a secured chunk that fits, in every mode -/
theorem C38_fits (a : AlgoParams) (ha : RowOk a) (m : Mode) (cs : Int) (h : 8192 ≤ cs)
    (hcs : cs < 4294967296) (n : Int) (hn0 : 0 ≤ n) (hn : n ≤ maxBody a cs) :
    (secureLen a m (rawLenOfBody n)).chunkLen ≤ cs :=
  secureLen_fits ha.blockRow m (Int.le_of_lt (room_of_rowOk ha h)) hcs hn0 hn

/-- in SignAndEncrypt mode the plaintext handed to the cipher is a whole number
    of cipher blocks (so `AES.Encrypt` accepts it) — for every body size -/
theorem C38_aligned (a : AlgoParams) (ha : RowOk a) (n : Int) (hn0 : 0 ≤ n) :
    (secureLen a .signAndEncrypt (rawLenOfBody n)).encryptOk = true ∧
    Int.tmod (secureLen a .signAndEncrypt (rawLenOfBody n)).plainLen a.plaintextBlockSize = 0 := by
  have hB := ha.blockRow
  have := hB.sig
  have := blockCeil_bounds hB.pos (n + 9 + a.signatureLength)
  rw [secureLen_enc hB hn0, hB.plain]
  exact ⟨rfl, by rw [Int.tmod_eq_emod_of_nonneg (by show 0 ≤ blockCeil _ _; omega)]; exact blockCeil_emod _ _⟩

/-- the MessageSize field written into the chunk equals the chunk's length,
    in every mode and for every body size -/
theorem C38_sizeField (a : AlgoParams) (ha : RowOk a) (m : Mode) (n : Int) (hn0 : 0 ≤ n) :
    (secureLen a m (rawLenOfBody n)).sizeField = (secureLen a m (rawLenOfBody n)).chunkLen := by
  cases m
  · rw [secureLen_none]
  · rw [secureLen_sign]
  · rw [secureLen_enc ha.blockRow hn0]

/-- the bound is tight: in SignAndEncrypt mode one more body byte no longer fits -/
theorem C38_tight (a : AlgoParams) (ha : RowOk a) (cs : Int) (h : 8192 ≤ cs)
    (hcs : cs < 4294967296) :
    cs < (secureLen a .signAndEncrypt (rawLenOfBody (maxBody a cs + 1))).chunkLen := by
  have hB := ha.blockRow
  have := hB.sig
  have hf := blockFloor_bounds hB.pos (cs - 16)
  have hr := C38_maxBody_range a ha cs h hcs
  rw [maxBody_eq ha h hcs] at hr ⊢
  -- what is rounded up is `⌊cs - 16⌋ + 1`; the result is a whole number of blocks above `⌊cs - 16⌋`,
  -- so a full block above it
  rw [secureLen_enc hB (by omega), show blockFloor a.blockSize (cs - 16) - 9 - a.signatureLength + 1 + 9 +
    a.signatureLength = blockFloor a.blockSize (cs - 16) + 1 by omega]
  have hc := blockCeil_bounds hB.pos (blockFloor a.blockSize (cs - 16) + 1)
  have := multiples_le (blockCeil_emod a.blockSize (blockFloor a.blockSize (cs - 16) + 1))
    (blockFloor_emod a.blockSize (cs - 16))
  show cs < 16 + blockCeil _ _
  omega

/-- monotone in the negotiated chunk size: a peer that grants a larger chunk
    never makes the channel place LESS body into one chunk -/
theorem C38_maxBody_mono (a : AlgoParams) (ha : RowOk a) (cs cs' : Int) (h : 8192 ≤ cs)
    (hle : cs ≤ cs') (hcs : cs' < 4294967296) :
    maxBody a cs ≤ maxBody a cs' := by
  have := blockFloor_mono ha.blockRow.pos (show cs - 16 ≤ cs' - 16 by omega)
  rw [maxBody_eq ha h (by omega), maxBody_eq ha (by omega) hcs]; omega

/-- the fixed per-chunk overhead is bounded: the channel gives up at most the
    headers, the signature, the padding byte and one cipher block of the chunk
    (so the body size is not merely safe but close to the best possible) -/
theorem C38_overhead_bounded (a : AlgoParams) (ha : RowOk a) (cs : Int) (h : 8192 ≤ cs)
    (hcs : cs < 4294967296) :
    cs - maxBody a cs ≤ 16 + 8 + a.signatureLength + 1 + (a.blockSize - 1) := by
  have := blockFloor_bounds ha.blockRow.pos (cs - 16)
  rw [maxBody_eq ha h hcs]; omega

/-- the property for the policies the code supports: all clauses at once -/
theorem C38_table (a : AlgoParams) (ha : a ∈ Gen.symmetricRows) (m : Mode) (cs : Int)
    (h : 8192 ≤ cs) (hcs : cs < 4294967296) (n : Int) (hn0 : 0 ≤ n) (hn : n ≤ maxBody a cs) :
    (secureLen a m (rawLenOfBody n)).chunkLen ≤ cs ∧
    (secureLen a m (rawLenOfBody n)).sizeField = (secureLen a m (rawLenOfBody n)).chunkLen ∧
    (secureLen a .signAndEncrypt (rawLenOfBody n)).encryptOk = true ∧
    cs < (secureLen a .signAndEncrypt (rawLenOfBody (maxBody a cs + 1))).chunkLen :=
  have ok := C38_rows_ok a ha
  ⟨C38_fits a ok m cs h hcs n hn0 hn, C38_sizeField a ok m n hn0, (C38_aligned a ok n hn0).1,
   C38_tight a ok cs h hcs⟩

/-- … and for the same policies: a larger negotiated chunk never shrinks the
    body, the body is positive and below the chunk size, and at most 72 bytes
    of a chunk (headers 24, signature ≤ 32, padding byte, one 16-byte block − 1)
    are not body — so at the protocol minimum 8192 at least 8120 bytes are -/
theorem C38_table_efficiency (a : AlgoParams) (ha : a ∈ Gen.symmetricRows) (cs cs' : Int)
    (h : 8192 ≤ cs) (hle : cs ≤ cs') (hcs : cs' < 4294967296) :
    maxBody a cs ≤ maxBody a cs' ∧ 0 < maxBody a cs ∧ maxBody a cs < cs ∧ cs - maxBody a cs ≤ 72 := by
  have ok := C38_rows_ok a ha
  have hsig := (rows_sig a ha).2
  have hblk : a.blockSize ≤ 16 := by have := ok.1; omega
  have hb := C38_overhead_bounded a ok cs h (by omega)
  have hr := C38_maxBody_range a ok cs h (by omega)
  exact ⟨C38_maxBody_mono a ok cs cs' h hle hcs, hr.1, hr.2, by omega⟩

/-- non-vacuity: the default chunk size 65535 with Basic256Sha256 -/
example : maxBody Gen.symBasic256Sha256 65535 = 65463 ∧
    (secureLen Gen.symBasic256Sha256 .signAndEncrypt (rawLenOfBody 65463)).chunkLen = 65520 ∧
    (secureLen Gen.symBasic256Sha256 .signAndEncrypt (rawLenOfBody 65464)).chunkLen = 65536 := by decide

end Opcua.Props.C38
