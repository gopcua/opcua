import OpcuaModel.Base.Loop
import OpcuaModel.Model.SendTimeout
/-
  Driver for C19 (trace validation of the timeout / receive-gate LTS).
    reset <n> <slack>              → ok
    lts cSend <k> <tmo> <0|1>      lts cSendFail <k>    lts cRecv <k>
    lts cTimeout <k> <0|1>         lts cCancel <k> <0|1>   lts cUnlock <k>
    lts dRecv <id> <opn 0|1> <hit 0|1>   lts dRcvLock   lts dSend   lts dWait   lts tick <d>
                                   → ok | reject   (after a reject: rejected-before)
    guard <label…>                 → in | out
    wedged                         → true | false
    caller <k>                     → idle | waiting <deadline> | returned <t> <how> | finished <t> <how>
    summary                        → now=<t> locked=<b> delivered=<n> dropped=<n>
    handler <k>                    → 0 | 1
-/
open Opcua Opcua.SendTimeout

def pb : String → Option Bool
  | "1" => some true
  | "0" => some false
  | _ => none

def parseLabel : List String → Option Label
  | ["cSend", k, t, o] => do let k ← k.toNat?; let t ← t.toNat?; let o ← pb o; some (.cSend k t o)
  | ["cSendFail", k] => do let k ← k.toNat?; some (.cSendFail k)
  | ["cRecv", k] => do let k ← k.toNat?; some (.cRecv k)
  | ["cTimeout", k, b] => do let k ← k.toNat?; let b ← pb b; some (.cTimeout k b)
  | ["cCancel", k, b] => do let k ← k.toNat?; let b ← pb b; some (.cCancel k b)
  | ["cUnlock", k] => do let k ← k.toNat?; some (.cUnlock k)
  | ["dRecv", i, o, b] => do let i ← i.toNat?; let o ← pb o; let b ← pb b; some (.dRecv i o b)
  | ["dRcvLock"] => some .dRcvLock
  | ["dSend"] => some .dSend
  | ["dWait"] => some .dWait
  | ["tick", d] => do let d ← d.toNat?; some (.tick d)
  | _ => none

def showHow : How → String
  | .got => "got" | .timeout => "timeout" | .cancelled => "cancelled" | .sendError => "sendError"

def showCpc : CPC → String
  | .idle => "idle"
  | .waiting dl _ => s!"waiting {dl}"
  | .returned t h _ => s!"returned {t} {showHow h}"
  | .finished t h => s!"finished {t} {showHow h}"

def handle (st : Option St) : List String → Option St × String
  | ["reset", n, sl] =>
    match n.toNat?, sl.toNat? with
    | some n, some sl => (some (init n sl), "ok")
    | _, _ => (st, "bad-op")
  | "lts" :: rest =>
    match st with
    | none => (none, "rejected-before")
    | some s =>
      match parseLabel rest with
      | none => (st, "bad-op")
      | some l =>
        match step? s l with
        | some s' => (some s', "ok")
        | none => (none, "reject")
  | "guard" :: rest =>
    match st, parseLabel rest with
    | some s, some l => (st, if decide (Guard s l) then "in" else "out")
    | _, _ => (st, "bad-op")
  | ["wedged"] =>
    match st with
    | some s => (st, if decide (Wedged s) then "true" else "false")
    | none => (st, "rejected-before")
  | ["caller", k] =>
    match st, k.toNat? with
    | some s, some k => (st, showCpc (s.cpc k))
    | _, _ => (st, "bad-op")
  | ["handler", k] =>
    match st, k.toNat? with
    | some s, some k => (st, if s.handlers k then "1" else "0")
    | _, _ => (st, "bad-op")
  | ["summary"] =>
    match st with
    | some s => (st, s!"now={s.now} locked={s.rcvLocked} delivered={s.delivered} dropped={s.dropped}")
    | none => (st, "rejected-before")
  | _ => (st, "bad-op")

def main : IO Unit := runDriverS handle (some (init 0 0))
